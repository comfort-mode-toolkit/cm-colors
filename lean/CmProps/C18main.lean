import CmProofs.CliMainLemmas
import CmProps.C08resolve
import CmProps.C18cli
import CmGen.CliMain
/-!
# C18 — the per-file loop of `main()` in `cli/main.py`, as translated from the source, is the model's

`harness/translate/climain.py` reads the syntax tree of `main()` and writes `CmGen/CliMain.lean`:
the order of the effect steps of the `try` body (`per_file_steps`), where the objects handed to `process_nodes_recursive`
are created (`binding_scopes`: `stats` once per run, `variables` / `rule_declarations_map` anew for every file), how it is
called (`process_call`), the post-pass loop (`postpass_rules`), one iteration with its `except Exception` handler (`per_file`),
the loop (`main_loop`) and `main` up to the report section (`main_run`).  Here they are proved equal to the model:
`Cm.Cli.processFile` (pre-pass, `processTop`, post-pass, final serialisability), `Cm.Fs.runFiles`, `Cm.Fs.run` — for every
character-class oracle `env`, every `cfg` (every `pairEval`), every file name, every stylesheet, every incoming state.

Abstraction (documented in the translator, the trusted part): tinycss2 nodes are the model's `Node` / `Item`, `id(rule)` is the
rule's position in the stylesheet, a path is its final component, the three Python objects `stats`, `variables`,
`rule_declarations_map` are one model `St` (`stats` = the `St` with empty `vars` / `rootDecls`), what an iteration leaves in the
file system is `Option (Str × List Node)` (opening for writing leaves an empty stylesheet until `write`), `FileIn.unreadable` =
opening / reading / decoding raised.  The pre-pass is the image tied in `CmProps/C08resolve.lean` (`source_prepass`);
`processTop` stands for `process_nodes_recursive` (its own tie, `source_process_top` in `CmProps/C08rulestop.lean`, is not
composed here).

The Python post-pass walks the stylesheet and looks each rule up in the map, the model checks every entry of the map: equal
because the keys are distinct positions of the stylesheet (`CmProofs/CliMainLemmas.lean`).
-/
namespace CmProps.C18
open Cm Cm.Cli Cm.Fs

theorem source_per_file_steps :
    CmGen.CliMain.per_file_steps = ["read", "parse", "prepass", "process", "postpass", "serialize", "open_w", "write"] := rfl

/-- `read`, `process`, `postpass`, `serialize` (listed by hand: the steps that can raise on a parsed file) come before the output
    file is opened: a failing file leaves no (empty) output behind -/
theorem source_open_after_raising_steps :
    ∀ s ∈ ["read", "process", "postpass", "serialize"],
      CmGen.CliMain.per_file_steps.idxOf s < CmGen.CliMain.per_file_steps.idxOf "open_w" := by decide +kernel

/-- the input is opened for reading, the only file opened for writing is the path beside the input, with mode `"w"` -/
theorem source_per_file_io :
    CmGen.CliMain.per_file_io = [("read", "input", "r", "utf-8"), ("open_w", "beside_input", "w", "utf-8")] := rfl

/-- the counters are created once per run; the custom-property table and the pre-parsed blocks anew for every file -/
theorem source_binding_scopes :
    CmGen.CliMain.binding_scopes = [("stats", "run"), ("variables", "file"), ("rule_declarations", "file")] := rfl

/-- `process_nodes_recursive` receives the parsed stylesheet, the run's counters, the file, the per-file table and map, and the
    command-line settings unchanged -/
theorem source_process_call :
    CmGen.CliMain.process_call =
      [("node_list", "stylesheet"), ("default_bg", "param default_bg"), ("stats", "stats"), ("file_path", "input"),
       ("variables", "variables"), ("mode", "param mode"), ("premium", "param premium"),
       ("rule_declarations", "declaration_lists")] := rfl

/-- `for rule in rules: if id(rule) in rule_declarations_map: …` — from any position: it fails iff some looked-up block is
    unserialisable, otherwise every pre-parsed rule gets its shared block (the model's `postNode`) -/
theorem source_postpass_rules (st' : St) : (ns : List Node) → (i : Nat) →
    CmGen.CliMain.postpass_rules st'.rootDecls ns i =
      if postOk st'.rootDecls ns i then .ok (ns.mapIdx fun j n => postNode st' (j + i) n) else .error ()
  | [], i => rfl
  | n :: r, i => by
    unfold CmGen.CliMain.postpass_rules
    rw [source_postpass_rules st' r (i + 1)]
    simp only [postOk, List.mapIdx_cons, Nat.zero_add, postNode_succ]
    have hg : (List.find? (fun x => decide (x.1 = i)) st'.rootDecls).map (·.2) = findRoot st'.rootDecls i := rfl
    rw [hg, postNode_eq_findRoot]
    cases findRoot st'.rootDecls i with
    | none =>
      simp only [Bool.true_and]
      cases n <;> cases postOk st'.rootDecls r (i + 1) <;> rfl
    | some its =>
      simp only
      by_cases hs : itemsSerialisable its = true
      · simp only [hs, Bool.true_and, if_true]
        cases n <;> cases postOk st'.rootDecls r (i + 1) <;> rfl
      · have hs' : itemsSerialisable its = false := by simpa using hs
        simp only [hs', Bool.false_and, Bool.false_eq_true, if_false]

/-- an unreadable input: the handler runs, nothing is written, the counters stay -/
theorem source_per_file_unreadable (env : CliEnv) (cfg : Cfg) (name : Str) (st0 : St) :
    CmGen.CliMain.per_file env cfg name .unreadable st0 = (none, true, st0) := rfl

/-- the `try` body on a parsed file is the model's `processFile`, followed by writing `outName name`; on failure nothing is
    written and the handler runs; either way the counters are what `processFile` leaves -/
theorem source_process_file (env : CliEnv) (cfg : Cfg) (name : Str) (nodes : List Node) (st0 : St) :
    CmGen.CliMain.per_file env cfg name (.css nodes) st0 =
      match processFile env cfg nodes st0 with
      | (.written out, st') => (some (outName name, out), false, resetSt st')
      | (.error, st') => (none, true, resetSt st') := by
  have hpre : ({ st0 with vars := (CmGen.CliResolve.prepass env nodes).1,
                          rootDecls := (CmGen.CliResolve.prepass env nodes).2 } : St) = fileSt env nodes st0 := by
    unfold fileSt; rw [CmProps.C08.source_prepass]
  rw [processFile_eq]
  unfold CmGen.CliMain.per_file
  simp only [hpre, outName_eq]
  cases hres : processTop env cfg nodes 0 (fileSt env nodes st0) with
  | error e => rfl
  | ok p =>
    obtain ⟨nodes', st'⟩ := p
    simp only
    -- the loop's position-wise check is the model's check of every entry: the keys are distinct positions below `nodes'.length`
    rw [source_postpass_rules st' nodes' 0, postOk_eq_rootsSerialisable st' nodes' (keysBelow_after env cfg nodes st0 nodes' st' hres)]
    simp only [Nat.add_zero]
    cases rootsSerialisable st' with
    | false => rfl
    | true =>
      simp only [if_true, Bool.true_and]
      -- the generated condition is `nodesSerialisable` unfolded
      show (if nodesSerialisable (nodes'.mapIdx (postNode st')) = true then _ else _) = _
      split <;> rfl

/-- when the handler runs, the iteration has written nothing (no partial or empty output file) -/
theorem source_no_output_on_error (env : CliEnv) (cfg : Cfg) (name : Str) (fi : FileIn) (st0 : St)
    (h : (CmGen.CliMain.per_file env cfg name fi st0).2.1 = true) : (CmGen.CliMain.per_file env cfg name fi st0).1 = none := by
  cases fi with
  | unreadable => rfl
  | css nodes =>
    rw [source_process_file] at h ⊢
    generalize processFile env cfg nodes st0 = p at h ⊢
    obtain ⟨o, st'⟩ := p
    cases o with
    | written out => cases h
    | error => rfl

/-- `for file_path in files: try … except Exception …` is the model's `runFiles`, from any state of the run -/
theorem source_run_files (env : CliEnv) (cfg : Cfg) : (files : List (Str × FileIn)) → (r : RunResult) →
    CmGen.CliMain.main_loop env cfg files r = runFiles env cfg files r
  | [], r => by simp only [CmGen.CliMain.main_loop, runFiles]
  | (name, .unreadable) :: rest, r => by
    unfold CmGen.CliMain.main_loop
    rw [runFiles_unreadable, source_per_file_unreadable]
    simp only [Option.toList_none, List.append_nil, if_true]
    exact source_run_files env cfg rest _
  | (name, .css nodes) :: rest, r => by
    unfold CmGen.CliMain.main_loop
    rw [runFiles_css, source_process_file]
    cases hp : processFile env cfg nodes r.st with
    | mk o st' =>
      cases o with
      | written out =>
        simp only [Option.toList_some, Bool.false_eq_true, if_false, List.append_nil]
        exact source_run_files env cfg rest _
      | error =>
        simp only [Option.toList_none, List.append_nil, if_true]
        exact source_run_files env cfg rest _

/-- the counters `main` starts from are the model's empty state -/
theorem source_main_stats : CmGen.CliMain.main_stats = ({} : St) := rfl

/-- `main` up to the report section is the model's `run` -/
theorem source_run (env : CliEnv) (cfg : Cfg) (files : List (Str × FileIn)) :
    CmGen.CliMain.main_run env cfg files = run env cfg files := by
  unfold CmGen.CliMain.main_run run
  rw [source_run_files, source_main_stats]

/-- the files the source writes are, file by file and in order, what each file yields on its own -/
theorem source_run_writes (env : CliEnv) (cfg : Cfg) (files : List (Str × FileIn)) :
    (CmGen.CliMain.main_run env cfg files).writes = files.filterMap (fileWrite env cfg) := by
  rw [source_run]; exact run_writes_eq env cfg files

/-- the files it reports are the unreadable ones and those that fail on their own -/
theorem source_run_errors (env : CliEnv) (cfg : Cfg) (files : List (Str × FileIn)) :
    (CmGen.CliMain.main_run env cfg files).errors = files.filterMap (fileError env cfg) := by
  rw [source_run]; exact run_errors_eq env cfg files

end CmProps.C18
