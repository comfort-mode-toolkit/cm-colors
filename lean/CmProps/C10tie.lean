import CmModel.Oklch
import CmGen.Leaves
/-!
# C10 — the OKLCH conversions of `conversions.py`, as translated on this run, are the model's
-/
namespace CmProps.C10
open Cm
variable {α : Type} [NumT α]

theorem source_linear_to_srgb (c : α) : CmGen.Leaves.linear_to_srgb c = linearToSrgb c := rfl
theorem source_safe_cbrt (x : α) : CmGen.Leaves.rgb_to_oklch__safe_cbrt x = safeCbrt x := rfl
theorem source_safe_cube (x : α) : CmGen.Leaves.oklch_to_rgb__safe_cube x = safeCube x := rfl
theorem source_hue_angle (a b : α) : CmGen.Leaves.calculate_hue_angle a b = hueAngle a b := rfl
theorem source_rgb_to_oklch (c : RGB) : CmGen.Leaves.rgb_to_oklch (α := α) c = rgbToOklch c := by
  -- unfolded first: `rfl` on the folded definitions unifies them slowly
  unfold CmGen.Leaves.rgb_to_oklch rgbToOklch rgbToOklab
  rfl
theorem source_oklch_to_rgb (t : α × α × α) : CmGen.Leaves.oklch_to_rgb t = oklchToRgb t := rfl

private theorem early_returns : ∀ p q r : Bool,
    (if !p then false else if q then false else if !r then false else true) = (p && !q && r) := by decide

/-- `is_valid_oklch`: the source's chain of early returns is the model's conjunction -/
theorem source_is_valid_oklch (t : α × α × α) : CmGen.Leaves.is_valid_oklch t = validOklch t :=
  early_returns _ _ _

theorem source_is_valid_rgb (c : RGB) : CmGen.Leaves.is_valid_rgb c = validRgb c := by
  simp only [CmGen.Leaves.is_valid_rgb, validRgb, Bool.and_assoc]

/-- `rgb_to_oklch_safe`: validation, conversion, validation, and the grey fallback of its handler (an explicit `raise`
    continues with the handler; exceptions raised inside the conversion are not modelled) -/
theorem source_rgb_to_oklch_safe (c : RGB) : CmGen.Leaves.rgb_to_oklch_safe (α := α) c = rgbToOklchSafe c := by
  obtain ⟨r, g, b⟩ := c
  simp only [CmGen.Leaves.rgb_to_oklch_safe, rgbToOklchSafe, source_is_valid_rgb, source_rgb_to_oklch, source_is_valid_oklch]

theorem source_oklch_to_rgb_safe (t : α × α × α) : CmGen.Leaves.oklch_to_rgb_safe t = oklchToRgbSafe t := by
  obtain ⟨L, C, H⟩ := t
  simp only [CmGen.Leaves.oklch_to_rgb_safe, oklchToRgbSafe, source_is_valid_rgb, source_oklch_to_rgb, source_is_valid_oklch]

end CmProps.C10
