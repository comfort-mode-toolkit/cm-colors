import CmModel.Color
/-!
# C06 — the output format `format_color` chooses for each detected input format
-/
namespace CmProps.C06
open Cm Cm.Parse

/-- every detected input format except `hsl` (three numbers, not text) -/
theorem outputFormat_table {α : Type} [Num α] (c : RGB) :
    (formatColor (α := α) c .hex = .text (fmtHex c)) ∧
    (formatColor (α := α) c .rgb = .text (fmtRgbFn c)) ∧
    (formatColor (α := α) c .rgbTuple = .tuple c) ∧
    (formatColor (α := α) c .named = .text (fmtHex c)) ∧
    (formatColor (α := α) c .rgba = .text (fmtHex c)) ∧
    (formatColor (α := α) c .hsla = .text (fmtHex c)) ∧
    (formatColor (α := α) c .rgbaTuple = .text (fmtHex c)) ∧
    (formatColor (α := α) c .unknown = .text (fmtHex c)) := ⟨rfl, rfl, rfl, rfl, rfl, rfl, rfl, rfl⟩

end CmProps.C06
