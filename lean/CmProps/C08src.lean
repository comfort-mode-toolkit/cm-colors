import CmModel.Strategy
import CmGen.CliSrc
/-!
# C08 — target ratio and dispatch literals of `cli/main.py`, as translated from the source

`harness/translate/clisrc.py` generates `CmGen/CliSrc.lean` from the syntax tree of `cli/main.py`. Here:
the CLI's target ratio is the minimum the API itself requires for normal text at the same `very_readable` setting (so
"meets the target" in the CLI and "success" in `make_readable` are the same judgement, C01), and the string literals the
rewriter dispatches on — which attribute of a declaration is compared with which property name, which selectors carry
custom properties, which at-rules are descended into, the two `var()` patterns — are the ones the model `Cm.Cli` uses.
-/
namespace CmProps.C08
open Cm Cm.Cli

/-- `target_ratio = 7.0 if premium else 4.5` is the API's minimum for normal-size text -/
theorem source_target_ratio {α : Type} [Num α] (premium : Bool) :
    CmGen.CliSrc.target_ratio (α := α) premium = (thresholds (α := α) false premium).1 := by
  cases premium <;> rfl

/-- the target ratio in the form the executed CLI model (`pairEvalImpl`) spells it -/
theorem source_target_ratio_cli (premium : Bool) :
    CmGen.CliSrc.target_ratio (α := Float) premium = (if premium then 7.0 else 4.5 : Float) := rfl

/-- the comparisons the rewriter dispatches on, in source order: `var(` containment, the lower-cased declaration name
    against `color` and `background-color`, the lower-cased at-keyword against `media` / `supports`, the selector against
    `:root` / `html`, custom properties by the `--` prefix of the declaration's name -/
theorem source_dispatch_tests : CmGen.CliSrc.dispatch_tests =
    [("resolve_variable", "value_str", "lacks", ["var("]),
     ("process_nodes_recursive", ".lower_name", "==", ["color"]),
     ("process_nodes_recursive", ".lower_name", "==", ["background-color"]),
     ("process_nodes_recursive", "raw_text_color", "contains", ["var("]),
     ("process_nodes_recursive", ".lower_at_keyword", "in", ["media", "supports"]),
     ("main", "selector", "in", [":root", "html"]),
     ("main", ".name", "startswith", ["--"])] := rfl

/-- the two `var()` patterns are the ones `Cm.Cli.searchVarFull` / `searchVarSimple` implement -/
theorem source_regex_literals : CmGen.CliSrc.regex_literals =
    [("resolve_variable", "re.compile", "var\\((--[\\w-]+)(?:\\s*,\\s*(.*))?\\)"),
     ("process_nodes_recursive", "re.search", "var\\((--[\\w-]+)\\)")] := rfl

/-- what `main` prints after the per-file loop (fixed-wording lines aside): each of the three counters under its own label and only
    when positive, the rules needing attention listed by file and selector from `failed_details`, and the HTML report generated from
    `fixed_details` exactly when something was adjusted -/
theorem source_report_section : CmGen.CliSrc.report_section =
    [("stats[\"accessible\"] > 0", "click.secho", "f\"✓ {stats['accessible']} color pairs already readable\""),
     ("stats[\"tuned\"] > 0", "click.secho", "f\"✓ {stats['tuned']} color pairs adjusted for better readability\""),
     ("stats[\"failed\"] > 0", "click.secho", "f\"✗ {stats['failed']} color pairs need your attention\""),
     ("stats[\"failed\"] > 0", "click.echo", "f\"Could not tune {stats['failed']} color pairs:\""),
     ("stats[\"failed\"] > 0 and for fail in stats[\"failed_details\"]", "click.echo", "f\" {fail['file']} -> {fail['selector']}\""),
     ("stats[\"failed\"] > 0 and for fail in stats[\"failed_details\"] and reason", "click.echo", "f\" Reason: {reason}\""),
     ("stats[\"tuned\"] > 0", "generate_report", "stats[\"fixed_details\"]"),
     ("stats[\"tuned\"] > 0", "click.echo", "f\"Report generated: {report_path}\"")] := rfl

/-- custom properties live in rules whose selector is `:root` or `html` -/
theorem model_root_selectors (sel : Str) :
    isRootSel sel = true ↔ sel = ":root".toList ∨ sel = "html".toList := by
  simp only [isRootSel, Bool.or_eq_true, decide_eq_true_eq]

/-- an at-rule other than `@media` / `@supports` is carried through untouched and uncounted -/
theorem model_other_at_rules (env : CliEnv) (cfg : Cfg) (top : Option Nat) (st : St) (kw prelude : Str) (body : List Node)
    (h1 : kw ≠ "media".toList) (h2 : kw ≠ "supports".toList) :
    processNode env cfg top st (.at kw prelude body) = .ok (.at kw prelude body, st) := by
  rw [processNode]
  rw [if_neg]
  · rfl
  · simp only [Bool.or_eq_true, decide_eq_true_eq]
    rintro (h | h)
    · exact h1 h
    · exact h2 h

/-- a rule is classified by its last `color` declaration (lower-cased name): without one it is left alone and not counted -/
theorem model_text_property (env : CliEnv) (cfg : Cfg) (sel : Str) (items : List Item) (st : St)
    (h : lastDecl items "color".toList = none) :
    processRule env cfg none sel items st = .ok (items, st) := by
  unfold processRule
  simp only []
  rw [h]

end CmProps.C08
