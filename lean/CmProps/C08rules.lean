import CmModel.Cli
import CmModel.CliErr
import CmGen.CliRules
/-!
# C08 — the per-rule body and the recursion of `process_nodes_recursive`, as translated from `cli/main.py`, are the model's

`harness/translate/clirules.py` translates, from the syntax tree, `update_decl_value`, the declaration-selection loop, the whole
`isinstance(node, QualifiedRule)` branch (extraction of the raw colours, `var()` resolution, the `try` block with the
classification, the counters and detail records, the write-back to the declaration or to the custom property's definition, the
re-serialisation) and the loop with its `isinstance(node, AtRule)` branch and the nested call, into `CmGen/CliRules.lean`.
Here the images are proved equal to `Cm.Cli.lastDecl`, `Cm.Cli.processRule`, `Cm.Cli.processNode` / `Cm.Cli.processNodes`,
for every character-class oracle `env`, every configuration `cfg` (default background, pair oracle), every state and input.

Abstractions through which the theorems are stated (the translation rules — the trusted part — are in the translator's docstring):
* tinycss2 objects are the model's `Node` / `Item` / `Decl`; a Declaration *object* is its index in the list it was taken from;
  `stats`, `variables`, `rule_declarations` are the fields of one threaded `St`; `top = some i` says the node is the
  stylesheet's i-th top-level node (`rule_declarations.get(id(node))` ↦ `getRoot st i`), `none` a node parsed out of an at-rule.
* Everything `ColorPair(..)`, `.is_valid`, `calculate_contrast_ratio(..) >= (7.0 if premium else 4.5)`, `get_wcag_level(..)`,
  `pair.make_readable(mode=mode, very_readable=premium)` say is the oracle `cfg.pairEval text bg` (C01/C05/C14's subject).
* **`late`**: the code calls `ColorPair(tuned_rgb, bg)` and `get_wcag_level(new_pair…)` *after* `stats["tuned"] += 1` and the
  write-back. Were one of them to raise, the handler would count the rule as failed *too* (tuned + 1, failed + 1, the
  declaration rewritten, no report card). `PairResult` cannot express that (`raised` ⇒ failed only), so the generated
  definitions take a second oracle `late text bg` for "a late pair-logic call raised" and the theorems are stated for
  `late = fun _ _ => false`. `source_late_calls` pins which calls are late.
* An `.error` state is compared through `Cm.Cli.onError` (its `stats` part): when re-serialising raises, the code has already
  written the tuned value through to the shared `:root`/`html` list, the model's `.error st1` has not; nothing reads those
  components after an error. With `top = none` (every nested rule) the equality is plain.
-/
namespace CmProps.C08
open Cm Cm.Cli CmGen.CliRules

/-- `update_decl_value(decl, v)`: the new value, then the comments the old value contained -/
theorem source_update_decl_value (d : Decl) (v : Str) :
    update_decl_value d v = { d with value := v ++ d.comments } := rfl

/-- the model's `setDeclValue` applies `update_decl_value` (as translated) to the declaration at an index -/
theorem source_update_decl_value_at (items : List Item) (idx : Nat) (v : Str) :
    setDeclValue items idx v =
      items.mapIdx fun i it => if i = idx then (match it with | .decl d => .decl (update_decl_value d v) | o => o) else it := rfl

/-- the loop `for decl in valid_decls:` from any position with any carried pair: two independent "last one wins" scans -/
theorem source_select_loop (items : List Item) (i : Nat) (a b : Option (Nat × Decl)) :
    select_loop items i (a, b) = (lastDecl.go "color".toList items i a, lastDecl.go "background-color".toList items i b) := by
  induction items generalizing i a b with
  | nil => rfl
  | cons it rest ih =>
    cases it with
    | decl d =>
      unfold select_loop lastDecl.go
      have ne1 : ¬ (("color".toList : Str) = "background-color".toList) := by decide
      by_cases h : d.lowerName = "color".toList
      · have h2 : ¬ d.lowerName = "background-color".toList := fun e => ne1 (h.symm.trans e)
        simp only [if_pos h, if_neg h2, ih]
      · by_cases h2 : d.lowerName = "background-color".toList
        · simp only [if_neg h, if_pos h2, ih]
        · simp only [if_neg h, if_neg h2, ih]
    | other t ok =>
      unfold select_loop lastDecl.go
      simp only [ih]

/-- `valid_decls` + the `if decl.lower_name == "color": … elif decl.lower_name == "background-color": …` loop select the last
    declaration of either (lower-cased) name, with its position -/
theorem source_last_declaration (items : List Item) :
    select_loop items 0 (none, none) = (lastDecl items "color".toList, lastDecl items "background-color".toList) := by
  rw [source_select_loop]; rfl

/-- the calls guarded by `late` are the construction of the tuned pair and its WCAG level, nothing else -/
theorem source_late_calls : late_calls = ["ColorPair(tuned, bg)", "get_wcag_level(tuned, bg)"] := rfl

theorem apply_ite_congr {α β : Type} (f : α → β) {c : Prop} [Decidable c] {a a' b b' : α}
    (h1 : f a = f a') (h2 : f b = f b') : f (if c then a else b) = f (if c then a' else b') := by
  cases ‹Decidable c› <;> assumption

theorem apply_ite_not_congr {α β : Type} (f : α → β) {c : Bool} {a a' b b' : α}
    (h1 : f a = f b') (h2 : f b = f a') :
    f (if c = true then a else b) = f (if (!c) = true then a' else b') := by
  cases c <;> assumption

/-- `f`: any function that cannot tell two `.error` states with the same `stats` apart (for a nested rule it is not asked to: there
    the states are equal). Both sides test the same conditions in the same order, so the proof descends the tree by congruence; the
    image tests `is_accessible` where the model tests its negation, and branches on `containsVar` / `searchVarSimple` / `lookupVar`
    where the model first builds `viaVar`: those three are split. The write-back of a direct rewrite occurs three times in the
    image and is proved once (`hNV`). -/
theorem rule_core {β : Type} (f : Except St (List Item × St) → β) (env : CliEnv) (cfg : Cfg) (top : Option Nat) (sel : Str)
    (items : List Item) (st : St)
    (hf : ∀ s s', (top = none → s = s') → statsOnly s = statsOnly s' → f (.error s) = f (.error s')) :
    f (rule_body env cfg (fun _ _ => false) top sel items st) = f (processRule env cfg top sel items st) := by
  unfold rule_body processRule
  -- the first fifteen names are the lets of `rule_body` (`decls`: the list looked at; `cdl` / `bdl`: the selected declarations;
  -- `st_f` / `st_a` / `st_t`: the state after `failed` / `accessible` / `tuned += 1`), the last four those of `processRule`
  extract_lets d0 decls modified nn s' cdl bdl rawbg bgs selr st_f nit st_a st_t mod' shared its rawBg bg
  have hI : its = decls := by
    cases top with
    | none => rfl
    | some i => cases hg : getRoot st i <;> simp only [its, shared, decls, d0, hg] <;> rfl
  have hc : lastDecl decls "color".toList = cdl := (congrArg Prod.fst (source_last_declaration decls)).symm
  have hbg : bg = bgs := by
    have hb : bdl = lastDecl decls "background-color".toList := congrArg Prod.snd (source_last_declaration decls)
    simp only [bg, bgs, rawBg, rawbg, hb, hI]
    cases lastDecl decls "background-color".toList <;> rfl
  rw [hI, hc, hbg]
  generalize cdl = o
  rcases o with _ | p
  -- both branches of the image's `match top` return `decls`
  · cases top <;> rfl
  refine apply_ite_congr f ?_ (apply_ite_congr f ?_ (apply_ite_congr f ?_ (apply_ite_not_congr f ?_ ?_)))
  · cases top <;> rfl
  · cases top <;> rfl
  · cases top <;> rfl
  · generalize strip env p.2.value = raw
    -- `?a` / `?b` (the two write-backs of a direct rewrite) are fixed by the first `exact hNV` in `main`, and proved equal in `prf`
    refine (fun (hNV : f ?a = f ?b) => ?main) ?prf
    case main =>
      cases containsVar raw
      · exact hNV
      · generalize searchVarSimple env raw = sv
        cases sv with
        | none => exact hNV
        | some name =>
          -- expose `lookupVar st.vars name` as the scrutinee on both sides: the image matches on it, the model maps over it
          conv => lhs; arg 1; whnf
          conv => rhs; arg 1; zeta; arg 2; simp only [↓reduceIte]
          cases lookupVar st.vars name with
          | none => exact hNV
          | some d =>
            simp only [getRoot, st_t, modified, Bool.false_eq_true, ↓reduceIte, Option.map_some]
            cases List.find? (fun x => decide (x.1 = d.rule)) st.rootDecls <;> cases top <;> rfl
    case prf =>
      cases top with
      | none => rfl
      | some i =>
        have e : getRoot st_t i = getRoot st i := rfl
        simp only [shared, mod', e, Bool.false_eq_true, ↓reduceIte]
        cases getRoot st i with
        | none => rfl
        | some its => exact apply_ite_congr f (hf _ _ (fun h => nomatch h) rfl) rfl
  · cases top <;> rfl

/-- the per-rule body on a rule that is not a top-level node (every nested rule): exactly `processRule … none` -/
theorem source_process_rule_nested (env : CliEnv) (cfg : Cfg) (sel : Str) (items : List Item) (st : St) :
    rule_body env cfg (fun _ _ => false) none sel items st = processRule env cfg none sel items st :=
  rule_core id env cfg none sel items st (fun _ _ h _ => congrArg Except.error (h rfl))

/-- the per-rule body, any `top`: the same result and state as `processRule`; when re-serialising raises, the same `stats` -/
theorem source_process_rule (env : CliEnv) (cfg : Cfg) (top : Option Nat) (sel : Str) (items : List Item) (st : St) :
    onError (rule_body env cfg (fun _ _ => false) top sel items st) = onError (processRule env cfg top sel items st) :=
  rule_core onError env cfg top sel items st (fun _ _ _ h => congrArg Except.error h)

mutual
/-- the loop body on a nested node (`@media` / `@supports` descend, everything else is left alone) is `processNode … none` -/
theorem source_process_node (env : CliEnv) (cfg : Cfg) : (n : Node) → (st : St) →
    process_node env cfg (fun _ _ => false) none st n = processNode env cfg none st n
  | .rule sel items, st => by
    simp only [process_node, processNode, source_process_rule_nested, bind, Except.bind, pure, Except.pure]
    cases processRule env cfg none sel items st <;> rfl
  | .at kw prelude body, st => by
    simp only [process_node, processNode, source_process_nodes env cfg body st, bind, Except.bind, pure, Except.pure, throw, throwThe,
      MonadExceptOf.throw]
    split
    · cases processNodes env cfg st body with
      | error e => rfl
      | ok p =>
        simp only [if_true]
        cases hall : p.1.all (fun n => match n with | .other _ ok => ok | _ => true) <;>
          simp only [↓reduceIte, Bool.false_eq_true, Bool.not_false, Bool.not_true]
    · rfl
  | .other t ok, st => by
    simp only [process_node, processNode, pure, Except.pure]
/-- `process_nodes_recursive` on a nested rule list is `processNodes` -/
theorem source_process_nodes (env : CliEnv) (cfg : Cfg) : (ns : List Node) → (st : St) →
    process_nodes env cfg (fun _ _ => false) st ns = processNodes env cfg st ns
  | [], st => by simp only [process_nodes, processNodes, pure, Except.pure]
  | n :: ns, st => by
    simp only [process_nodes, processNodes, source_process_node env cfg n st, bind, Except.bind, pure, Except.pure]
    cases h : processNode env cfg none st n with
    | error e => rfl
    | ok p =>
      simp only [source_process_nodes env cfg ns p.2]
      cases processNodes env cfg p.2 ns <;> rfl
end

/-- the loop body on a top-level node (`top` = its index when it is one): `processNode`, error states by their `stats` -/
theorem source_process_node_top (env : CliEnv) (cfg : Cfg) (top : Option Nat) (st : St) (n : Node) :
    onError (process_node env cfg (fun _ _ => false) top st n) = onError (processNode env cfg top st n) := by
  cases n with
  | rule sel items =>
    have h := source_process_rule env cfg top sel items st
    simp only [process_node, processNode, bind, Except.bind, pure, Except.pure]
    cases h1 : rule_body env cfg (fun _ _ => false) top sel items st with
    | error e =>
      cases h2 : processRule env cfg top sel items st with
      | error e' => rw [h1, h2] at h; injection h with h; exact congrArg Except.error h
      | ok b => rw [h1, h2] at h; cases h
    | ok a =>
      cases h2 : processRule env cfg top sel items st with
      | error e' => rw [h1, h2] at h; cases h
      | ok b => rw [h1, h2] at h; cases h; rfl
  | «at» kw prelude body =>
    have h := source_process_node env cfg (.at kw prelude body) st
    simp only [process_node, processNode] at h ⊢
    rw [h]
  | other t ok => simp only [process_node, processNode, pure, Except.pure]

end CmProps.C08
