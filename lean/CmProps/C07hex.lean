import CmModel.Parser
import CmModel.HexVocab
import CmGen.HexSrc
import CmProofs.SourceHex
/-!
# C07 — `hex_to_rgb` and the number-token regex, as translated from the source on this run, are the model's

`harness/translate/hexsrc.py` translates
* `conversions.hex_to_rgb(hex_str, string=False)` with `string` fixed to its default (rule P1; the `if string:` branch is
  dead under that and dropped by T2): `strip().lstrip("#")`, the doubling `"".join([c * 2 for c in hex_str])` of a
  three-digit value, the test `len(hex_str) != 6 or not all(c in "0123456789abcdefABCDEF" for c in hex_str)`, the three
  `int(hex_str[i:j], 16)` (rule S5: `Str.intBase16`, `CmModel/HexVocab.lean`) and the returned triple.
  The model's `hexToRgb` matches on the six characters and uses `Str.hexVal` instead; `source_hex_to_rgb` proves the two
  equal for every string and every character-class oracle;
* `color_parser._NUM_RE` / `_extract_number_tokens`: the pattern text, and `_NUM_RE.findall(s)` as the model's
  `NumRe.findAll` (rule R1: only for exactly this pattern text; `CmProofs/ParseNumRe.lean` proves what `NumRe` matches).
-/
namespace CmProps.C07
open Cm Cm.Parse Cm.SourceHex

/-- the block both branches of `hex_to_rgb` end in (length and alphabet test, three `int(…, 16)`),
    on any text: the model's match on six characters -/
private theorem six_digits (t : Str) :
    (if (decide (t.length ≠ 6) || !(t.all fun c => (Str.hexVal c).isSome)) = true then
        vErr
      else do
        let r ← Str.intBase16 ((t.drop 0).take 2)
        let g ← Str.intBase16 ((t.drop 2).take 2)
        let b ← Str.intBase16 ((t.drop 4).take 2)
        pure (r, g, b)) =
      match t with
      | [a, b, c, d, e, f] =>
        match Str.hexVal a, Str.hexVal b, Str.hexVal c, Str.hexVal d, Str.hexVal e, Str.hexVal f with
        | some a, some b, some c, some d, some e, some f =>
          .ok (Int.ofNat (16 * a + b), Int.ofNat (16 * c + d), Int.ofNat (16 * e + f))
        | _, _, _, _, _, _ => vErr
      | _ => vErr := by
  -- by the length of the text: only six characters are read
  rcases t with _ | ⟨a, _ | ⟨b, _ | ⟨c, _ | ⟨d, _ | ⟨e, _ | ⟨f, _ | ⟨g, t⟩⟩⟩⟩⟩⟩⟩
  · rfl
  · rfl
  · rfl
  · rfl
  · rfl
  · rfl
  · -- `[a, b, c, d, e, f]`
    simp only [List.drop, List.take, intBase16_pair, List.all_cons, List.all_nil]
    -- from left to right: the first character that is not a digit makes both sides `ValueError`
    cases Str.hexVal a
    case none => rfl
    cases Str.hexVal b
    case none => rfl
    cases Str.hexVal c
    case none => rfl
    cases Str.hexVal d
    case none => rfl
    cases Str.hexVal e
    case none => rfl
    cases Str.hexVal f
    case none => rfl
    rfl
  · rfl

/-- `hex_to_rgb(hex_str)` (tuple result) -/
theorem source_hex_to_rgb (E : PEnv) (s : Str) : CmGen.HexSrc.hex_to_rgb E s = hexToRgb E s := by
  unfold CmGen.HexSrc.hex_to_rgb hexToRgb
  generalize Str.lstripHash (Str.strip E.cls s) = t
  simp only [alphabet_contains_hexVal, six_digits]
  -- a three-digit value is doubled on both sides; any other text is passed on as it is
  rcases t with _ | ⟨a, _ | ⟨b, _ | ⟨c, _ | ⟨d, t⟩⟩⟩⟩ <;> rfl

/-- the text `_NUM_RE` is compiled from is the expression `Cm.NumRe` implements -/
theorem source_num_re_pattern : CmGen.HexSrc.num_re_pattern = "[-+]?\\d*\\.?\\d+%?" := rfl

/-- `_extract_number_tokens(s)` = `_NUM_RE.findall(s)` is the model's `NumRe.findAll` (which `parseStr` calls) -/
theorem source_extract_number_tokens (E : PEnv) (s : Str) :
    CmGen.HexSrc.extract_number_tokens E s = NumRe.findAll E.cls s := rfl

end CmProps.C07
