import CmGen.EscapeSig
/-!
# C19 — what is interpolated into the HTML reports, and how (regenerated from the source on this run)

`harness/translate/escapesig.py` lists every `{…}` placeholder of every markup-building f-string in `cli/html_report.py` and
`core/visualiser.py` together with a classification from a data-flow analysis inside the function: `escaped` (the value is
`html.escape(…)`, or a name only ever bound to that, or an f-string of such values), `badge:` (a label / CSS class that
`_get_level_badge` picks — library text, never caller text), `html:` (markup returned by another listed function), `raw:`
(anything else). The theorems pin the table and state that nothing is `raw`. This complements the behaviour-extracted
templates (`C19.lean`): it also covers markup that is only rendered for inputs the template extraction never feeds (a card
for unparseable entries, an "unchanged" card), and an escape that has become conditional.
-/
namespace CmProps.C19

theorem source_placeholders : CmGen.EscapeSig.placeholders =
    [("html_report.py", "generate_report", "bg", "escaped"),
     ("html_report.py", "generate_report", "original_text", "escaped"),
     ("html_report.py", "generate_report", "tuned_text", "escaped"),
     ("html_report.py", "generate_report", "selector", "escaped"),
     ("html_report.py", "generate_report", "file_path", "escaped"),
     ("html_report.py", "generate_report", "bg_style", "escaped"),
     ("html_report.py", "generate_report", "orig_text_style", "escaped"),
     ("html_report.py", "generate_report", "original_text", "escaped"),
     ("html_report.py", "generate_report", "original_level", "escaped"),
     ("html_report.py", "generate_report", "bg_style", "escaped"),
     ("html_report.py", "generate_report", "tuned_text_style", "escaped"),
     ("html_report.py", "generate_report", "tuned_text", "escaped"),
     ("html_report.py", "generate_report", "new_level", "escaped"),
     ("visualiser.py", "to_html", "bg", "escaped"),
     ("visualiser.py", "to_html", "fg", "escaped"),
     ("visualiser.py", "to_html", "tuned_fg", "escaped"),
     ("visualiser.py", "to_html", "html.escape(str(selector))", "escaped"),
     ("visualiser.py", "to_html", "html.escape(str(file_path))", "escaped"),
     ("visualiser.py", "to_html", "bg_style", "escaped"),
     ("visualiser.py", "to_html", "orig_text_style", "escaped"),
     ("visualiser.py", "to_html", "fg", "escaped"),
     ("visualiser.py", "to_html", "orig_class", "badge:_get_level_badge"),
     ("visualiser.py", "to_html", "orig_label", "badge:_get_level_badge"),
     ("visualiser.py", "to_html", "bg_style", "escaped"),
     ("visualiser.py", "to_html", "tuned_text_style", "escaped"),
     ("visualiser.py", "to_html", "tuned_fg", "escaped"),
     ("visualiser.py", "to_html", "new_class", "badge:_get_level_badge"),
     ("visualiser.py", "to_html", "new_label", "badge:_get_level_badge"),
     ("visualiser.py", "to_html_bulk", "cards_html", "html:to_html")] := rfl

/-- no placeholder of a report is raw: each is escaped, a badge chosen by the library, or markup from `to_html` -/
theorem source_no_raw_placeholder (m f e c : String) (h : (m, f, e, c) ∈ CmGen.EscapeSig.placeholders) :
    c = "escaped" ∨ c = "badge:_get_level_badge" ∨ c = "html:to_html" :=
  (by decide +kernel : ∀ r ∈ CmGen.EscapeSig.placeholders,
    r.2.2.2 = "escaped" ∨ r.2.2.2 = "badge:_get_level_badge" ∨ r.2.2.2 = "html:to_html") _ h

end CmProps.C19
