import CmProps.C16api
import CmProps.C01cap
/-!
# C16 — the property, stated about the image of the source

`C16api.lean` carried over to `make_readable` as translated from `colors.py` on this run. `checkAndFix` in the hypotheses is the
model's (`C16opt.source_check_and_fix` identifies it with the source's).
-/
namespace CmProps.C16
open Cm Cm.Parse Cm.FmtRt CmProps.C01

/-- whenever mode 1 succeeds, mode 2 returns the identical value with success -/
theorem source_mode2_of_mode1 {α : Type} [NumT α] (hα : ByteExact α) (E : PEnv)
    (hf : AsciiFaithful E.cls) (hk : keysLower E.named = true) (O : Leaf α) (d : Descend α) (cond : Nat → Bool)
    (p : ColorPair α) (very s r s' r' : Bool) (t b : RGB) (ht : p.text.rgb? = some t) (hb : p.bg.rgb? = some b)
    (hv : validRgb (checkAndFix O d t b p.large 1 very).1 = true)
    (hs : (checkAndFix O d t b p.large 1 very).2 = true) :
    Prod.fst <$> CmGen.Api.ColorPair_make_readable E O d cond p 2 very s r =
      Prod.fst <$> CmGen.Api.ColorPair_make_readable E O d cond p 1 very s' r' := by
  rw [CmProps.C06.source_make_readable_result, CmProps.C06.source_make_readable_result,
    makeReadable_mode2_of_mode1 hα E hf hk O d p very t b ht hb hv hs]

/-- whenever the very-readable request succeeds, the ordinary request for the same pair, mode and size succeeds -/
theorem source_ordinary_of_very {α : Type} [NumT α] [LawfulNumOrd α] [LawfulLit α]
    (hα : ByteExact α) (E : PEnv) (hf : AsciiFaithful E.cls) (hk : keysLower E.named = true)
    (O : Leaf α) (d : Descend α) (cond : Nat → Bool) (p : ColorPair α) (mode : Int) (s r s' r' : Bool) (t b : RGB)
    (ht : p.text.rgb? = some t) (hb : p.bg.rgb? = some b)
    (hv1 : validRgb (checkAndFix O d t b p.large mode true).1 = true)
    (hv0 : validRgb (checkAndFix O d t b p.large mode false).1 = true)
    (out : OutVal α)
    (h : Prod.fst <$> CmGen.Api.ColorPair_make_readable E O d cond p mode true s r = .ok (some out, true)) :
    ∃ out', Prod.fst <$> CmGen.Api.ColorPair_make_readable E O d cond p mode false s' r' = .ok (some out', true) := by
  obtain ⟨out', h'⟩ := makeReadable_ordinary_of_very hα E hf hk O d p mode t b ht hb hv1 hv0 out
    ((source_make_readable_eq_ok ..).1 h)
  exact ⟨out', (source_make_readable_eq_ok ..).2 h'⟩

end CmProps.C16
