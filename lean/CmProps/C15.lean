import CmModel.Machine
import CmModel.Color
import CmGen.StateSig
/-!
# C15 — results are pure functions of the arguments: no history or thread dependence
-/
namespace CmProps.C15
open Cm Cm.Machine

variable {S Op Out : Type}

theorem runHist_readOnly (M : Machine S Op Out) (h : ReadOnly M) (s : S) (hist : List Op) :
    runHist M s hist = s := by
  induction hist generalizing s with
  | nil => rfl
  | cons o r ih => show runHist M (M.step s o).1 r = s; rw [h s o]; exact ih s

/-- **frame**: if no operation writes, the result of a probe after *any* history equals its result
    in a fresh state -/
theorem frame (M : Machine S Op Out) (h : ReadOnly M) (s : S) (hist : List Op) (p : Op) :
    probeAfter M s hist p = (M.step s p).2 := by
  unfold probeAfter; rw [runHist_readOnly M h]

/-- the same at every position of a batch: each output of a sequence of calls is the one the call gives in the
    initial state -/
theorem outputs_readOnly (M : Machine S Op Out) (h : ReadOnly M) (s : S) (ops : List Op) :
    outputs M s ops = ops.map fun o => (M.step s o).2 := by
  induction ops generalizing s with
  | nil => rfl
  | cons o r ih => show (M.step s o).2 :: outputs M (M.step s o).1 r = _; rw [h s o, ih]; rfl

/-- **interleave**: under any interleaving of per-thread sequences, every operation gets the output
    it gets when issued alone in the initial state (the machine's operations are atomic; CPython's
    thread switching inside an operation is not modelled). True of every list `l`: `_hl` is not used. -/
theorem interleave (M : Machine S Op Out) (h : ReadOnly M) (s : S) (ts : List (List Op)) (l : List Op)
    (_hl : Interleaving ts l) : outputs M s l = l.map fun o => (M.step s o).2 :=
  outputs_readOnly M h s l

/-- calling twice on the same object: the second result equals the first -/
theorem repeat_same (M : Machine S Op Out) (h : ReadOnly M) (s : S) (p : Op) :
    (M.step (M.step s p).1 p).2 = (M.step s p).2 := by rw [h s p]

/-- `ColorPair.make_readable` as a machine operation on the pair object: the model's `make_readable` reads the pair and
    returns a value, the pair is not changed -/
def pairMachine {α : Type} [NumT α] (E : PEnv) (O : Leaf α) (d : Descend α) :
    Machine (ColorPair α) (Int × Bool) (Option (Parse.OutVal α × Bool)) :=
  { step := fun p op => (p, p.makeReadable E O d op.1 op.2) }

theorem makeReadable_readonly {α : Type} [NumT α] (E : PEnv) (O : Leaf α) (d : Descend α) :
    ReadOnly (pairMachine E O d) := fun _ _ => rfl

/-- the scan of the package finds no place where state could survive a call: no `global`, no store
    or mutating call on a module-level name, no mutable default argument, no cache decorator, no
    class-level mutable, no `self.x = …` outside the constructors -/
theorem no_mutation_sites : CmGen.mutationSites = [] := by decide

/-- the only module-level mutable containers are the keyword table and `__all__` -/
theorem module_level_containers :
    (CmGen.moduleBindings.filter fun b => b.2.2 = "dict" || b.2.2 = "list" || b.2.2 = "set").map (·.2.1) =
      ["__all__", "CSS_NAMED_COLORS"] := by decide +kernel

end CmProps.C15
