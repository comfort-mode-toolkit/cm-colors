import CmModel.ApiVocab
import CmGen.Api
import CmProofs.SourceApi
import CmProps.C14api
/-!
# C06 — what `ColorPair.make_readable` returns, as translated from the source on this run, is the model's `makeReadable`

The image of `make_readable` (`CmGen/Api.lean`, `harness/translate/api.py`) returns a value and the list of effects. The value:
`(None, False)` for an invalid pair, else the answer of `check_and_fix_contrast` re-read through
`Color(tuned_rgb_str)` and re-spelt by `format_color(c.rgb, self.text._format)`, keeping the raw answer when the re-read
fails (`try … except Exception: pass`). No exception is possible, and the `show` / `save_report` block cannot change the
value (the translator drops a block only if nothing it binds is read later).
-/
namespace CmProps.C06
open Cm Cm.Parse Cm.SourceApi
variable {α : Type} [NumT α]

/-- the model's `Option (value × success)` as the Python pair it stands for: `none` = `(None, False)` -/
def asPython {β : Type} (r : Option (β × Bool)) : Option β × Bool :=
  match r with | none => (none, false) | some (v, ok) => (some v, ok)

theorem asPython_eq_some {β : Type} (r : Option (β × Bool)) (v : β) (ok : Bool) :
    asPython r = (some v, ok) ↔ r = some (v, ok) := by
  rcases r with _ | ⟨v', ok'⟩ <;> simp [asPython]

/-- `Color(x, ctx).rgb` -/
theorem source_color_new_rgb (x : ColorInput) (ctx : Option (Color α)) :
    (CmGen.Api.Color_new (α := α) x ctx).rgb? =
      (match x.parse (match ctx with | some c => c.rgb? | none => none) with | .ok r => some r | .error _ => none) := by
  rw [C14.source_color_parse_input]
  cases x.parse (match ctx with | some c => c.rgb? | none => none) with
  | ok r => rfl
  | error e => cases e <;> rfl

/-- `ColorPair.make_readable(mode, very_readable, show, save_report)`: the value and, in order, the effects -/
theorem source_make_readable (E : PEnv) (O : Leaf α) (d : Descend α) (cond : Nat → Bool) (p : ColorPair α)
    (mode : Int) (very show_ save : Bool) :
    CmGen.Api.ColorPair_make_readable E O d cond p mode very show_ save =
      .ok (asPython (p.makeReadable E O d mode very), mrEffects p.isValid show_ save) := by
  unfold CmGen.Api.ColorPair_make_readable ColorPair.isValid Color.isValid CmGen.Api.ColorPair_is_valid
    CmGen.Api.Color_is_valid
  cases ht : p.text.rgb? with
  | none => simp only [ColorPair.makeReadable, ht]; rfl
  | some t =>
    cases hb : p.bg.rgb? with
    | none => simp only [ColorPair.makeReadable, ht, hb]; rfl
    | some b =>
      rw [makeReadable_valid E O d p mode very t b ht hb]
      simp only [Api.withRgb, Option.isSome_some, Bool.and_self, Bool.not_true, Bool.false_eq_true, if_false, if_true,
        checkAndFixOut_truthy, CmGen.Api.Color_rgb, source_color_new_rgb]
      refine congrArg Except.ok (Prod.ext ?_ ?_)
      · cases (Api.ofOut E (Api.checkAndFixOut O d t b p.large mode very).1).parse none <;> rfl
      · -- the data-dependent test `cond 0` only chooses between two prints
        simp only [ite_self]
        cases show_ <;> cases save <;> rfl

/-- the returned value alone: never an exception, and the model's `makeReadable` whatever `show` and `save_report` are -/
theorem source_make_readable_result (E : PEnv) (O : Leaf α) (d : Descend α) (cond : Nat → Bool) (p : ColorPair α)
    (mode : Int) (very show_ save : Bool) :
    Prod.fst <$> CmGen.Api.ColorPair_make_readable E O d cond p mode very show_ save =
      .ok (asPython (p.makeReadable E O d mode very)) := by
  rw [source_make_readable]; rfl

end CmProps.C06
