import CmProps.C02api
import CmProps.C01cap
/-!
# C02 — the property, stated about the image of the source

`C02api.lean` carried over to `make_readable` as translated from `colors.py` on this run, for any `show` / `save_report`.
`checkAndFix` and `thresholds` in the statements are the model's (see `C01cap.lean`).
-/
namespace CmProps.C02
open Cm Cm.Parse Cm.FmtRt CmProps.C01

/-- a pair that already meets the minimum comes back with success and a value denoting exactly the original colour -/
theorem source_make_readable_already_ok {α : Type} [NumT α] (hα : ByteExact α) (hH : HslExact α) (E : PEnv)
    (hf : AsciiFaithful E.cls) (hk : keysLower E.named = true) (O : Leaf α) (d : Descend α) (cond : Nat → Bool)
    (p : ColorPair α) (mode : Int) (very show_ save : Bool) (t b : RGB) (ht : p.text.rgb? = some t)
    (hb : p.bg.rgb? = some b) (hvt : validRgb t = true)
    (hok : Num.ge (O.contrast t b) (thresholds (α := α) p.large very).1 = true) (bg' : Option RGB) :
    ∃ out, Prod.fst <$> CmGen.Api.ColorPair_make_readable E O d cond p mode very show_ save = .ok (some out, true) ∧
      readBack (α := α) E bg' out = some t := by
  obtain ⟨out, h, hr⟩ := makeReadable_already_ok hα hH E hf hk O d p mode very t b ht hb hvt hok bg'
  exact ⟨out, (source_make_readable_eq_ok ..).2 h, hr⟩

/-- in every case the colour read back from the returned value has at least the original's contrast -/
theorem source_make_readable_monotone {α : Type} [NumT α] [LawfulNumOrd α] (hα : ByteExact α) (hH : HslExact α)
    (E : PEnv) (hf : AsciiFaithful E.cls) (hk : keysLower E.named = true) (O : Leaf α) (d : Descend α)
    (cond : Nat → Bool) (p : ColorPair α) (mode : Int) (very show_ save : Bool) (t b : RGB) (ht : p.text.rgb? = some t)
    (hb : p.bg.rgb? = some b) (hv : validRgb (checkAndFix O d t b p.large mode very).1 = true) (bg' : Option RGB) :
    ∃ out ok c, Prod.fst <$> CmGen.Api.ColorPair_make_readable E O d cond p mode very show_ save = .ok (some out, ok) ∧
      readBack (α := α) E bg' out = some c ∧ Num.le (O.contrast t b) (O.contrast c b) = true := by
  obtain ⟨out, ok, c, h, hr, hm⟩ := makeReadable_monotone hα hH E hf hk O d p mode very t b ht hb hv bg'
  exact ⟨out, ok, c, (source_make_readable_eq_ok ..).2 h, hr, hm⟩

end CmProps.C02
