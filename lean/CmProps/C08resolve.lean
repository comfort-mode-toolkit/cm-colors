import CmModel.Cli
import CmGen.CliResolve
/-!
# C08 — `var()` resolution of the CSS rewriter, as translated from `cli/main.py`, is the model's

`resolve_variable` (cycle detection through the shared `visited` set, fallbacks, the exact regular expression) and its two
call sites in `process_nodes_recursive` (`resolve_variable(raw, variables) or raw`) are translated from the syntax tree by
`harness/translate/cliresolve.py` into `CmGen/CliResolve.lean`; here they are proved equal to `Cm.Cli.resolveVar` /
`Cm.Cli.resolveOr`, for every character-class oracle `env`, every dictionary, every recursion bound and every input.
(`fuel` is the model's recursion bound: Python has none. The call-site theorems instantiate it with the expression `resolveOr`
uses. That this bound is never reached — so that the model's answer at fuel 0 never shows — is proved nowhere: it is a modelling
assumption covered by the dynamic tie only.)

The pre-pass loop of `main()` (which fills `variables` and `rule_declarations_map`) is translated too and proved to be the
model's `prePass` (`source_prepass`), through the documented abstraction: tinycss2 nodes are the model's `Node` / `Item` /
`Decl`; `id(rule)` is the rule's index in the stylesheet; a stored `{"decl": decl, "rule": rule, "value": v}` is the
position `(rule index, item index)` of that declaration object plus `v`; `variables[k] = …` is "replace or insert"
(`(k, v) :: variables.filter (·.1 ≠ k)`, read only through `lookupVar`; Python keeps a replaced key at its old position
in the dict's iteration order, which nothing in `cli/main.py` observes).
The translation rules (the trusted part) are in the docstring of `harness/translate/cliresolve.py`.
-/
namespace CmProps.C08
open Cm Cm.Cli

/-- the pattern `resolve_variable` compiles is the one `searchVarFull` is the semantics of -/
theorem source_resolve_pattern :
    CmGen.CliResolve.resolve_pattern = "var\\((--[\\w-]+)(?:\\s*,\\s*(.*))?\\)" := rfl

/-- `resolve_variable(value_str, variables, visited)`, for every fuel -/
theorem source_resolve_variable (env : CliEnv) (vars : Vars) (fuel : Nat) (s : Str) (visited : List Str) :
    CmGen.CliResolve.resolve_variable env vars fuel s visited = resolveVar env vars fuel s visited := by
  induction fuel generalizing s visited with
  | zero => rfl
  | succ n ih =>
    unfold CmGen.CliResolve.resolve_variable resolveVar
    refine ite_congr rfl (fun _ => rfl) fun _ => ?_
    cases searchVarFull env s with
    | none => rfl
    | some m =>
      obtain ⟨name, fb⟩ := m
      refine ite_congr rfl (fun _ => rfl) fun _ => ?_
      cases lookupVar vars name with
      | none => cases fb <;> simp only [ih]
      | some d =>
        simp only [ih]
        generalize resolveVar env vars n d.value (name :: visited) = r
        obtain ⟨r1, v1⟩ := r
        cases r1 <;> cases fb <;> rfl

/-- `text_color_str = resolve_variable(raw_text_color, variables) or raw_text_color` -/
theorem source_resolve_or (env : CliEnv) (vars : Vars) (raw : Str) :
    CmGen.CliResolve.resolve_call_1 env vars
      (raw.length + (vars.foldl (fun n kv => n + kv.2.value.length + 1) 0) + vars.length + 2) raw
      = resolveOr env vars raw := by
  unfold CmGen.CliResolve.resolve_call_1 resolveOr
  rw [source_resolve_variable]
  rfl

/-- `bg_color_str = resolve_variable(raw_bg_color, variables) or raw_bg_color` (the two call sites have the same image) -/
theorem source_resolve_or_bg (env : CliEnv) (vars : Vars) (raw : Str) :
    CmGen.CliResolve.resolve_call_2 env vars
      (raw.length + (vars.foldl (fun n kv => n + kv.2.value.length + 1) 0) + vars.length + 2) raw
      = resolveOr env vars raw := by
  show CmGen.CliResolve.resolve_call_1 env vars _ raw = _
  exact source_resolve_or env vars raw

/-- `process_nodes_recursive` resolves exactly twice (text and background) -/
theorem source_resolve_call_sites : CmGen.CliResolve.resolve_call_sites = 2 := rfl

/-- `for decl in decls:` — the inner loop is the model's `collectVars` (from any position, any dictionary) -/
theorem source_prepass_decls (env : CliEnv) (i : Nat) (items : List Item) (j : Nat) (vars : Vars) :
    CmGen.CliResolve.prepass_decls env i items j vars = collectVars.go env i items j vars := by
  induction items generalizing j vars with
  | nil => rfl
  | cons it rest ih =>
    unfold CmGen.CliResolve.prepass_decls collectVars.go
    cases it with
    | decl d =>
      have e : ("--".toList : Str) = ['-', '-'] := rfl
      simp only [ih, e]
      split <;> rfl
    | other t ok => simp only [ih]

/-- `for rule in rules:` — the outer loop, from any position and any state, is the model's `prePass.go` -/
theorem source_prepass_rules (env : CliEnv) (nodes : List Node) (i : Nat) (st : St) :
    prePass.go env nodes i st =
      { st with vars := (CmGen.CliResolve.prepass_rules env nodes i (st.vars, st.rootDecls)).1,
                rootDecls := (CmGen.CliResolve.prepass_rules env nodes i (st.vars, st.rootDecls)).2 } := by
  induction nodes generalizing i st with
  | nil => rfl
  | cons n rest ih =>
    unfold prePass.go CmGen.CliResolve.prepass_rules
    cases n with
    | rule sel items =>
      have hsel : (sel = ":root".toList || sel = "html".toList) = isRootSel sel := rfl
      simp only [source_prepass_decls, hsel, ih]
      split <;> rfl
    | «at» kw prelude body => simp only [ih]
    | other t ok => simp only [ih]

/-- the two dictionaries the pre-pass of `main` hands to `process_nodes_recursive` are the model's `prePass`, which contains
    nothing else -/
theorem source_prepass (env : CliEnv) (nodes : List Node) :
    prePass env nodes = { vars := (CmGen.CliResolve.prepass env nodes).1, rootDecls := (CmGen.CliResolve.prepass env nodes).2 } := by
  unfold prePass CmGen.CliResolve.prepass
  rw [source_prepass_rules]

end CmProps.C08
