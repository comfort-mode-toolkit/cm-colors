import CmModel.ApiVocab
import CmGen.Api
import CmProps.C06api
/-!
# C17 — the effects of `make_readable` (for `make_readable_bulk` see `C17bulk.lean`), as translated from the source on this run, are the model's

In the images (`CmGen/Api.lean`, `harness/translate/api.py`) every `print(...)` / `to_console(...)` appends `Effect.stdout`
and every `to_html_bulk(..., output_path=LIT)` appends `Effect.write LIT` to a list, in program order, under the tests
that guard them in the source. A test that only chooses *between* effects and looks at data (the "colours are already
accessible" comparison) is the uninterpreted `cond k`; the theorems hold for every `cond`: both of its branches print
exactly once, which is the model's single `stdout`. The file names are generated from the string literals.
-/
namespace CmProps.C17
open Cm Cm.Parse
variable {α : Type} [NumT α]

/-- `ColorPair.make_readable(mode, very_readable, show, save_report)`: what is printed and written, in order -/
theorem source_make_readable_effects (E : PEnv) (O : Leaf α) (d : Descend α) (cond : Nat → Bool) (p : ColorPair α)
    (mode : Int) (very show_ save : Bool) :
    Prod.snd <$> CmGen.Api.ColorPair_make_readable E O d cond p mode very show_ save =
      .ok (mrEffects p.isValid show_ save) := by
  rw [C06.source_make_readable]; rfl

end CmProps.C17
