import CmProps.C17
import CmProps.C17api
import CmProps.C17bulk
/-!
# C17 — the property, stated about the image of the source

`C17.lean` proves the effect theorems for the model's `mrEffects` / `bulkEffects`; `C17api.lean` / `C17bulk.lean` prove that
the effect lists generated from `colors.py` / `cm_colors.py` on this run are those functions. Hence, about the source on
this run: without `show` and `save_report` nothing is printed or written; a file is written only when `save_report` is
set, and then it is the documented report.
-/
namespace CmProps.C17
open Cm Cm.Parse
variable {α : Type} [NumT α]

/-- `make_readable(mode, very_readable)` without the switches: no effect at all -/
theorem source_silent_default (E : PEnv) (O : Leaf α) (d : Descend α) (cond : Nat → Bool) (p : ColorPair α)
    (mode : Int) (very : Bool) :
    Prod.snd <$> CmGen.Api.ColorPair_make_readable E O d cond p mode very false false = .ok [] := by
  rw [source_make_readable_effects, silent_default]

/-- whatever the switches, the only file `make_readable` writes is the documented quick report -/
theorem source_writes_documented (E : PEnv) (O : Leaf α) (d : Descend α) (cond : Nat → Bool) (p : ColorPair α)
    (mode : Int) (very s r : Bool) (fx : List Effect) (f : String)
    (h : Prod.snd <$> CmGen.Api.ColorPair_make_readable E O d cond p mode very s r = .ok fx)
    (hf : Effect.write f ∈ fx) : f = "cm_colors_quick_report.html" := by
  rw [source_make_readable_effects] at h
  cases h
  exact writes_documented _ s r f hf

/-- and nothing is written unless `save_report` is set -/
theorem source_write_only_if_asked (E : PEnv) (O : Leaf α) (d : Descend α) (cond : Nat → Bool) (p : ColorPair α)
    (mode : Int) (very s : Bool) (fx : List Effect) (f : String)
    (h : Prod.snd <$> CmGen.Api.ColorPair_make_readable E O d cond p mode very s false = .ok fx) :
    Effect.write f ∉ fx := by
  rw [source_make_readable_effects] at h
  cases h
  exact write_only_if_asked _ s f

end CmProps.C17
