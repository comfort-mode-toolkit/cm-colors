import CmProofs.CliFs
import CmProofs.CliDemo
/-!
# C18 — in a directory run every stylesheet is processed as if it were alone

Statements over `Cm.Cli.processFile` and the per-file loop `Cm.Fs.runFiles` / `Cm.Fs.run`, for every
`env`, every `cfg` (every `pairEval`) and every list of files. `fileWrite` / `fileError` (defined in
`CmProofs.CliFs`, characterised below) say what a single file contributes to the outputs and to the
error list *on its own*, i.e. processed from the empty state `{}`.
-/
namespace CmProps.C18
open Cm Cm.Cli Cm.Fs

/-- the outcome of a file (written content, or skipped) does not depend on the state the run hands it — counters, detail lists,
    the table and blocks left by other files: it is a function of the file's own nodes, the settings and `pairEval` -/
theorem per_file_independent (env : CliEnv) (cfg : Cfg) (nodes : List Node) (st0 st0' : St) :
    (processFile env cfg nodes st0).1 = (processFile env cfg nodes st0').1 :=
  processFile_indep env cfg nodes st0 st0'

/-- `processFile` overwrites the custom-property table and the pre-parsed blocks with what the
    pre-pass finds in the file itself -/
theorem processFile_starts_fresh (env : CliEnv) (cfg : Cfg) (nodes : List Node) (st0 : St) :
    (fileSt env nodes st0).vars = (prePass env nodes).vars ∧
    (fileSt env nodes st0).rootDecls = (prePass env nodes).rootDecls ∧
    processFile env cfg nodes st0 =
      match processTop env cfg nodes 0 (fileSt env nodes st0) with
      | .error st' => (.error, st')
      | .ok (nodes', st') =>
        if rootsSerialisable st' && nodesSerialisable (nodes'.mapIdx (postNode st')) then
          (.written (nodes'.mapIdx (postNode st')), st')
        else (.error, st') := ⟨rfl, rfl, processFile_eq env cfg nodes st0⟩

/-- states that agree on the custom-property table and the pre-parsed blocks are mapped to results with equal output (or both
    failing) and states that again agree -/
theorem processTop_independent (env : CliEnv) (cfg : Cfg) (nodes : List Node) (i : Nat) (s t : St)
    (hv : s.vars = t.vars) (hr : s.rootDecls = t.rootDecls) :
    match processTop env cfg nodes i s, processTop env cfg nodes i t with
    | .ok (a, s'), .ok (b, t') => a = b ∧ s'.vars = t'.vars ∧ s'.rootDecls = t'.rootDecls
    | .error s', .error t' => s'.vars = t'.vars ∧ s'.rootDecls = t'.rootDecls
    | _, _ => False := by
  have h := processTop_rel env cfg nodes i s t ⟨hv, hr⟩
  revert h  -- the statement is `ResRel` unfolded
  cases processTop env cfg nodes i s <;> cases processTop env cfg nodes i t <;> exact id

theorem fileWrite_def (env : CliEnv) (cfg : Cfg) (name : Str) :
    (∀ nodes out, (processFile env cfg nodes {}).1 = .written out →
      fileWrite env cfg (name, .css nodes) = some (outName name, out)) ∧
    (∀ nodes, (processFile env cfg nodes {}).1 = .error → fileWrite env cfg (name, .css nodes) = none) ∧
    fileWrite env cfg (name, .unreadable) = none := by
  refine ⟨fun nodes out h => ?_, fun nodes h => ?_, rfl⟩ <;> simp only [fileWrite, h]

theorem fileError_def (env : CliEnv) (cfg : Cfg) (name : Str) :
    (∀ nodes out, (processFile env cfg nodes {}).1 = .written out → fileError env cfg (name, .css nodes) = none) ∧
    (∀ nodes, (processFile env cfg nodes {}).1 = .error → fileError env cfg (name, .css nodes) = some name) ∧
    fileError env cfg (name, .unreadable) = some name := by
  refine ⟨fun nodes out h => ?_, fun nodes h => ?_, rfl⟩ <;> simp only [fileError, h]

theorem isReadable_def (name : Str) :
    (∀ nodes, isReadable (name, .css nodes) = true) ∧ isReadable (name, .unreadable) = false := ⟨fun _ => rfl, rfl⟩

/-- the outputs of a run are, file by file and in order, what each file yields on its own -/
theorem run_writes_eq (env : CliEnv) (cfg : Cfg) (files : List (Str × FileIn)) :
    (run env cfg files).writes = files.filterMap (fileWrite env cfg) := by
  simp [run, runFiles_eq]

/-- the reported files are, in order, the unreadable ones and those that fail on their own -/
theorem run_errors_eq (env : CliEnv) (cfg : Cfg) (files : List (Str × FileIn)) :
    (run env cfg files).errors = files.filterMap (fileError env cfg) := by
  simp [run, runFiles_eq]

/-- a pair is written iff it is `(outName name, out)` for a readable file `name` of the
    run whose processing *alone* yields `out` -/
theorem run_write_of_file (env : CliEnv) (cfg : Cfg) (files : List (Str × FileIn)) (w : Str × List Node) :
    w ∈ (run env cfg files).writes ↔
      ∃ name nodes, (name, FileIn.css nodes) ∈ files ∧ w.1 = outName name ∧
        (processFile env cfg nodes {}).1 = .written w.2 := by
  rw [run_writes_eq, List.mem_filterMap]
  constructor
  · rintro ⟨⟨name, fi⟩, hmem, hf⟩
    cases fi with
    | unreadable => simp [fileWrite] at hf
    | css nodes =>
      simp only [fileWrite] at hf
      cases hp : (processFile env cfg nodes {}).1 with
      | error => rw [hp] at hf; simp at hf
      | written out =>
        rw [hp] at hf; simp at hf; subst hf
        exact ⟨name, nodes, hmem, rfl, hp⟩
  · rintro ⟨name, nodes, hmem, hname, hp⟩
    refine ⟨(name, .css nodes), hmem, ?_⟩
    simp only [fileWrite, hp, ← hname]

theorem run_alone (env : CliEnv) (cfg : Cfg) (name : Str) (fi : FileIn) :
    (run env cfg [(name, fi)]).writes = (fileWrite env cfg (name, fi)).toList ∧
    ∀ files, (name, fi) ∈ files → ∀ w ∈ (run env cfg [(name, fi)]).writes, w ∈ (run env cfg files).writes := by
  refine ⟨by rw [run_writes_eq]; cases h : fileWrite env cfg (name, fi) <;> simp [h], ?_⟩
  intro files hmem w hw
  rw [run_writes_eq] at hw ⊢
  rw [List.mem_filterMap] at hw ⊢
  obtain ⟨f, hf, hw⟩ := hw
  simp at hf; subst hf
  exact ⟨_, hmem, hw⟩

/-- adding files to a run adds their outputs and changes none of the others -/
theorem run_writes_append (env : CliEnv) (cfg : Cfg) (a b : List (Str × FileIn)) :
    (run env cfg (a ++ b)).writes = (run env cfg a).writes ++ (run env cfg b).writes := by
  simp only [run_writes_eq, List.filterMap_append]

/-- traversal order is immaterial — a permutation of the files yields a permutation of the
    same writes (and of the same reported names) -/
theorem run_writes_perm (env : CliEnv) (cfg : Cfg) (files files' : List (Str × FileIn)) (h : files.Perm files') :
    (run env cfg files).writes.Perm (run env cfg files').writes ∧
    (run env cfg files).errors.Perm (run env cfg files').errors := by
  rw [run_writes_eq, run_writes_eq, run_errors_eq, run_errors_eq]
  exact ⟨h.filterMap _, h.filterMap _⟩

/-- an unreadable file adds its name to the reported names, writes nothing, leaves the
    counters alone, and the loop continues with the remaining files -/
theorem faults_skipped (env : CliEnv) (cfg : Cfg) (name : Str) (rest : List (Str × FileIn)) (r : RunResult) :
    runFiles env cfg ((name, .unreadable) :: rest) r = runFiles env cfg rest { r with errors := r.errors ++ [name] } :=
  runFiles_unreadable env cfg name rest r

/-- a stylesheet whose re-serialisation fails is reported and skipped in the same way, the run continues -/
theorem failing_file_skipped (env : CliEnv) (cfg : Cfg) (name : Str) (nodes : List Node) (rest : List (Str × FileIn))
    (r : RunResult) (st' : St) (h : processFile env cfg nodes r.st = (.error, st')) :
    runFiles env cfg ((name, .css nodes) :: rest) r =
      runFiles env cfg rest { r with errors := r.errors ++ [name], st := { st' with vars := [], rootDecls := [] } } := by
  rw [runFiles_css, h]; rfl

theorem unreadable_reported (env : CliEnv) (cfg : Cfg) (files : List (Str × FileIn)) (name : Str)
    (h : (name, FileIn.unreadable) ∈ files) : name ∈ (run env cfg files).errors := by
  rw [run_errors_eq, List.mem_filterMap]
  exact ⟨_, h, rfl⟩

/-- removing the unreadable files from a run changes neither the outputs nor the final counters -/
theorem unreadable_ignored (env : CliEnv) (cfg : Cfg) (files : List (Str × FileIn)) :
    (run env cfg files).writes = (run env cfg (files.filter isReadable)).writes ∧
    (run env cfg files).st = (run env cfg (files.filter isReadable)).st := by
  simp only [run, runFiles_eq, List.foldl_filter, List.filterMap_filter]
  -- on an unreadable file `fileWrite` is `none` and `fileNext` returns the state: skipping it is filtering it out
  constructor
  · congr 2
    funext f
    obtain ⟨name, fi⟩ := f
    cases fi <;> rfl
  · congr 1
    funext s f
    obtain ⟨name, fi⟩ := f
    cases fi <;> rfl

theorem discovered_not_cm (names : List Str) (n : Str) (h : n ∈ discovered names) :
    n ∈ names ∧ isCssName n = true ∧ isCmName n = false := (discovered_spec names n).1 h

/-- the output name of a discovered input is itself never discovered, in any directory: for `x.css` it ends in
    `_cm.css`, and for the dot-file `.css` it is `.css_cm`, which is not a `*.css` name -/
theorem outputs_not_inputs (names others : List Str) (n : Str) (h : n ∈ discovered names) :
    outName n ∉ discovered others := by
  intro hin
  have h1 := (discovered_spec names n).1 h
  have h2 := (discovered_spec others _).1 hin
  have h3 := outName_not_input n h1.2.1
  rw [h2.2.1, h2.2.2] at h3
  simp at h3

/-- after a run has added its outputs to the directory, discovery yields exactly the
    same inputs — outputs are never re-consumed (also for the dot-file `.css`: see `outputs_not_inputs`) -/
theorem rerun_discovers_same (names : List Str) :
    discovered (names ++ (discovered names).map outName) = discovered names := by
  have e : discovered ((discovered names).map outName) = [] := by
    refine List.eq_nil_iff_forall_not_mem.2 fun a ha => ?_
    obtain ⟨n, hn, rfl⟩ := List.mem_map.1 ((discovered_spec _ a).1 ha).1
    exact outputs_not_inputs names _ n hn ha
  rw [discovered_append, e, List.append_nil]

/-- so repeating a run reproduces the same outputs -/
theorem rerun_same_writes (env : CliEnv) (cfg : Cfg) (content : Str → FileIn) (names : List Str) :
    (run env cfg ((discovered (names ++ (discovered names).map outName)).map fun n => (n, content n))).writes =
    (run env cfg ((discovered names).map fun n => (n, content n))).writes := by
  rw [rerun_discovers_same]

theorem dotfile_edge : outName ".css".toList = ".css_cm".toList ∧ isCssName ".css".toList = true ∧
    isCmName ".css".toList = false ∧ isCssName ".css_cm".toList = false := by decide +kernel

section Examples
open Cm.Cli.Demo

/-- a run over a readable file, an unreadable one and a second readable one (with a custom-property table of its own): two
    outputs, one reported name, and the first output is what the file yields alone -/
example :
    (run asciiEnv cfgTune [("a.css".toList, .css sheet), ("bad.css".toList, .unreadable),
      ("v.css".toList, .css sheetVar)]).writes.map (·.1) = ["a_cm.css".toList, "v_cm.css".toList] ∧
    (run asciiEnv cfgTune [("a.css".toList, .css sheet), ("bad.css".toList, .unreadable),
      ("v.css".toList, .css sheetVar)]).errors = ["bad.css".toList] ∧
    (processFile asciiEnv cfgTune sheet {}).1 = .written sheetOut :=
  have hrun : _ ∧ _ := by decide +kernel  -- the run is evaluated once for both of its components
  ⟨hrun.1, hrun.2, rfl⟩

/-- discovery skips earlier outputs and non-stylesheets, and a second run sees the same inputs -/
example : discovered ["a.css".toList, "a_cm.css".toList, ".css".toList, "n.txt".toList] = ["a.css".toList, ".css".toList] ∧
    discovered (["a.css".toList, ".css".toList] ++ (discovered ["a.css".toList, ".css".toList]).map outName) =
      ["a.css".toList, ".css".toList] := by decide +kernel

end Examples

end CmProps.C18
