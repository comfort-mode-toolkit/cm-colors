import CmProps.C02
import CmProps.C01api
/-!
# C02 at the API: a pair that already meets the minimum comes back as exactly the original colour
-/
namespace CmProps.C02
open Cm Cm.Parse Cm.FmtRt CmProps.C01

/-- already readable ⇒ `make_readable` reports success and returns a value that reads back as
    exactly the original text colour -/
theorem makeReadable_already_ok {α : Type} [NumT α] (hα : ByteExact α) (hH : HslExact α) (E : PEnv)
    (hf : AsciiFaithful E.cls) (hk : keysLower E.named = true) (O : Leaf α) (d : Descend α)
    (p : ColorPair α) (mode : Int) (very : Bool) (t b : RGB) (ht : p.text.rgb? = some t)
    (hb : p.bg.rgb? = some b) (hvt : validRgb t = true)
    (hok : Num.ge (O.contrast t b) (thresholds (α := α) p.large very).1 = true) (bg' : Option RGB) :
    ∃ out, p.makeReadable E O d mode very = some (out, true) ∧ readBack (α := α) E bg' out = some t := by
  have hcf := already_ok_identity O d t b p.large very mode hok
  obtain ⟨out, h, hr⟩ := makeReadable_reads_back hα hH E hf hk O d p mode very t b ht hb
    (by rw [hcf]; exact hvt) bg'
  rw [hcf] at h hr
  exact ⟨out, h, hr⟩

/-- otherwise the colour the result reads back as never has lower contrast than the original -/
theorem makeReadable_monotone {α : Type} [NumT α] [LawfulNumOrd α] (hα : ByteExact α) (hH : HslExact α)
    (E : PEnv) (hf : AsciiFaithful E.cls) (hk : keysLower E.named = true) (O : Leaf α) (d : Descend α)
    (p : ColorPair α) (mode : Int) (very : Bool) (t b : RGB) (ht : p.text.rgb? = some t)
    (hb : p.bg.rgb? = some b) (hv : validRgb (checkAndFix O d t b p.large mode very).1 = true)
    (bg' : Option RGB) :
    ∃ out ok c, p.makeReadable E O d mode very = some (out, ok) ∧ readBack (α := α) E bg' out = some c ∧
      Num.le (O.contrast t b) (O.contrast c b) = true := by
  obtain ⟨out, h, hr⟩ := makeReadable_reads_back hα hH E hf hk O d p mode very t b ht hb hv bg'
  exact ⟨out, _, _, h, hr, checkAndFix_monotone O d t b p.large very mode⟩

end CmProps.C02
