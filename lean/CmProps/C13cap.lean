import CmProps.C13
import CmProps.C14api
import CmProps.C05api
/-!
# C13 — the property, stated about the image of the source

`C13.lean` proves the data flow of the compositing context for the model's `ColorPair.new`; `C14api.lean` proves that the
constructor generated from `colors.py` on this run is that function, `C05api.lean` the same for `is_readable`. Hence, about
the source as it reads now: the pair parses its background first and without context (a translucent background goes over
white), parses the text against that background's colour, and the readability query judges the composite.
-/
namespace CmProps.C13
open Cm Cm.Parse
variable {α : Type} [NumT α]

/-- `ColorPair(text, bg, large)` as translated: the text colour is parsed with the pair's own background as context, the
    background with none -/
theorem source_pair_uses_own_bg (E : PEnv) (text bg : PyVal α) (large : Bool) :
    (CmGen.Api.ColorPair_new (α := α) (Api.ofVal E text) (Api.ofVal E bg) large).text =
      Color.new E text (some (Color.new E bg none)) ∧
    (CmGen.Api.ColorPair_new (α := α) (Api.ofVal E text) (Api.ofVal E bg) large).bg = Color.new E bg none := by
  rw [CmProps.C14.source_color_pair_init]
  exact pair_uses_own_bg E text bg large

/-- when the background parses to `b` and the text, composited over `b`, to `t`, the pair's text colour is `t` -/
theorem source_text_composited_over_bg (E : PEnv) (text bg : PyVal α) (large : Bool) (b t : RGB)
    (hb : (Color.new E bg none).state = .valid b) (ht : parseColor E text (some b) = .ok t) :
    (CmGen.Api.ColorPair_new (α := α) (Api.ofVal E text) (Api.ofVal E bg) large).text.state = .valid t := by
  rw [CmProps.C14.source_color_pair_init]
  exact text_composited_over_bg E text bg large b hb t ht

/-- and `is_readable`, as translated, is the label of the WCAG level of that composite against the background -/
theorem source_judged_is_composite (p : ColorPair α) (t b : RGB)
    (ht : p.text.state = .valid t) (hb : p.bg.state = .valid b) :
    CmGen.Api.ColorPair_is_readable p = .ok (wcagLevel (α := α) t b p.large).label := by
  rw [CmProps.C05.source_is_readable, judged_is_composite p t b ht hb]

end CmProps.C13
