import CmProofs.FormatRoundtrip
import CmProofs.HslRoundtrip
import CmProofs.SourceApi
/-!
# C06 — every format `make_readable` can answer in is read back as exactly the colour it shows

For each of the 16 777 216 colours (`validRgb c = true`) and each output format {hex, `rgb()`, `hsl()`,
tuple} the value `format_color` produces is parsed back to the same colour. The text formats depend on
the Unicode classes: the theorems hold for every oracle that gives ASCII characters their ASCII
classes (`AsciiFaithful`, true of `asciiCls`), and for every keyword table whose keys are lower-case
letters (`keysLower`, true of the generated `CmGen.namedTable` by kernel evaluation). Hex and tuple
never touch the numeric carrier and are proved for every carrier; `rgb()` needs the carrier to read the
decimal text of a byte exactly (`ByteExact`, proved for `ℚ`); `hsl()` is proved at the exact carrier `ℚ`.
-/
namespace CmProps.C06
open Cm Cm.Parse Cm.FmtRt

/-- `asciiCls` is the driver's default oracle -/
theorem ascii_faithful : AsciiFaithful asciiCls := ⟨fun _ _ => rfl, fun _ _ => rfl, fun _ _ => rfl⟩

/-- every keyword of the generated `CSS_NAMED_COLORS` table consists of lower-case ASCII letters -/
theorem named_keys_lower : keysLower namedEnv = true := keysLower_namedEnv

/-- at the exact carrier `float("n")` is the integer `n` itself, so a byte's decimal text is read exactly -/
theorem rat_byteExact : @ByteExact ℚ ratNum := by
  intro n hn
  have e : @Num.ofDecimal ℚ ratNum false n 0 = ((n : ℤ) : ℚ) := by
    show (if false = true then -_ else _) = _
    simp
  rw [e]
  refine ⟨?_, ?_, rat_roundHE_int n⟩
  · rw [rat_le, rat_sci, lit0]; exact_mod_cast n.zero_le
  · rw [rat_le, rat_sci, lit255]; exact_mod_cast hn

/-- `rgb_to_hex` writes `#` followed by six characters from `0123456789abcdef` -/
theorem hex_shape (c : RGB) (hc : validRgb c = true) :
    ∃ a b c' d e f : Char, fmtHex c = ['#', a, b, c', d, e, f] ∧
      ∀ x ∈ [a, b, c', d, e, f], x ∈ "0123456789abcdef".toList := by
  obtain ⟨d1, d2, d3, d4, d5, d6, e, m, -⟩ := fmtHex_digits c hc
  exact ⟨d1, d2, d3, d4, d5, d6, e, m⟩

/-- any carrier, any faithful oracle, any lower-case keyword table: `#rrggbb` is read back as `c` -/
theorem hex_roundtrip {α : Type} [Num α] {cls : CharCls} (hf : AsciiFaithful cls)
    (named : List (Str × Str)) (hk : keysLower named = true) (c : RGB) (hc : validRgb c = true)
    (bg : Option RGB) :
    parseColor (α := α) ⟨cls, named⟩ (.str (fmtHex c)) bg = .ok c :=
  parseStr_fmtHex hf named hk c hc bg

/-- `hex_roundtrip` with the generated `CSS_NAMED_COLORS` as the keyword table -/
theorem hex_roundtrip_real {α : Type} [Num α] {cls : CharCls} (hf : AsciiFaithful cls) (c : RGB)
    (hc : validRgb c = true) (bg : Option RGB) :
    parseColor (α := α) ⟨cls, namedEnv⟩ (.str (fmtHex c)) bg = .ok c :=
  hex_roundtrip hf namedEnv keysLower_namedEnv c hc bg

/-- `_detect_format` finds `hex` for the text `rgb_to_hex` writes -/
theorem detect_hex {α : Type} [Num α] {cls : CharCls} (hf : AsciiFaithful cls)
    (named : List (Str × Str)) (hk : keysLower named = true) (c : RGB) (hc : validRgb c = true) :
    detectFormat (α := α) ⟨cls, named⟩ (.str (fmtHex c)) = .hex := by
  obtain ⟨d1, d2, d3, d4, d5, d6, e, m, -⟩ := fmtHex_digits c hc
  rw [e]
  exact detect_hash hf named hk fun x hx => hexChars_isHexDigit x (m x hx)

/-- any carrier, any environment: the tuple `(r, g, b)` of a valid colour is read back as itself -/
theorem tuple_roundtrip {α : Type} [Num α] (E : PEnv) (c : RGB) (hc : validRgb c = true)
    (bg : Option RGB) :
    parseColor (α := α) E (.tuple [.int c.1, .int c.2.1, .int c.2.2]) bg = .ok c :=
  (seq_ints E c hc bg).1

/-- the same for a list `[r, g, b]` -/
theorem list_roundtrip {α : Type} [Num α] (E : PEnv) (c : RGB) (hc : validRgb c = true)
    (bg : Option RGB) :
    parseColor (α := α) E (.list [.int c.1, .int c.2.1, .int c.2.2]) bg = .ok c :=
  (seq_ints E c hc bg).2

/-- a 3-tuple or 3-list is detected as `rgb_tuple`, whatever its entries -/
theorem detect_tuple {α : Type} [Num α] (E : PEnv) (x y z : PyVal α) :
    detectFormat E (.tuple [x, y, z]) = .rgbTuple ∧ detectFormat E (.list [x, y, z]) = .rgbTuple :=
  ⟨rfl, rfl⟩

/-- `str(n)` of a byte is a non-empty string of ASCII digits whose decimal value is `n`. The hypothesis `h` is not
    needed: this is true of every `n`. -/
theorem intStr_byte_digits (n : Nat) (h : n < 256) :
    (∀ ch ∈ intStr (n : Int), ch ∈ "0123456789".toList) ∧ intStr (n : Int) ≠ [] ∧
      decFrom 0 (intStr (n : Int)) = n :=
  have _ := h
  intStr_nat n

/-- `_NUM_RE.findall("rgb(r, g, b)")` is the three decimal strings, for every faithful oracle -/
theorem rgbfn_tokens {cls : CharCls} (hf : AsciiFaithful cls) (c : RGB) (hc : validRgb c = true) :
    NumRe.findAll cls (fmtRgbFn c) = [intStr c.1, intStr c.2.1, intStr c.2.2] := by
  obtain ⟨r, g, b, -, -, -, rfl⟩ := validRgb_nat c hc
  exact fmtRgbFn_tokens hf r g b

/-- `float()` of a digit string is its decimal value, for every carrier and faithful oracle -/
theorem float_of_digits {α : Type} [Num α] {cls : CharCls} (hf : AsciiFaithful cls) (D : Str)
    (hD : ∀ ch ∈ D, ch ∈ "0123456789".toList) (hne : D ≠ []) :
    PyFloat.parse (α := α) cls D = .ok (Num.ofDecimal false (decFrom 0 D) 0) :=
  parse_digits hf D hD hne

/-- every byte-exact carrier, faithful oracle, lower-case keyword table: `rgb(r, g, b)` is read back as `c` -/
theorem rgbfn_roundtrip_of_byteExact {α : Type} [Num α] (hα : ByteExact α) {cls : CharCls}
    (hf : AsciiFaithful cls) (named : List (Str × Str)) (hk : keysLower named = true) (c : RGB)
    (hc : validRgb c = true) (bg : Option RGB) :
    parseColor (α := α) ⟨cls, named⟩ (.str (fmtRgbFn c)) bg = .ok c :=
  parseStr_fmtRgbFn hα hf named hk c hc bg

/-- exact carrier, faithful oracle, generated keyword table: `rgb(r, g, b)` is read back as `c` -/
theorem rgbfn_roundtrip {cls : CharCls} (hf : AsciiFaithful cls) (c : RGB) (hc : validRgb c = true)
    (bg : Option RGB) :
    @parseColor ℚ ratNum ⟨cls, namedEnv⟩ (.str (fmtRgbFn c)) bg = .ok c :=
  @parseStr_fmtRgbFn ℚ ratNum rat_byteExact cls hf namedEnv keysLower_namedEnv c hc bg

/-- `_detect_format` finds `rgb` for the `rgb(r, g, b)` text `format_color` writes -/
theorem detect_rgbfn {α : Type} [Num α] {cls : CharCls} (hf : AsciiFaithful cls)
    (named : List (Str × Str)) (hk : keysLower named = true) (c : RGB) (hc : validRgb c = true) :
    detectFormat (α := α) ⟨cls, named⟩ (.str (fmtRgbFn c)) = .rgb := by
  obtain ⟨r, g, b, -, -, -, rfl⟩ := validRgb_nat c hc
  have F := fmtRgbFn_text hf hk r g b
  unfold detectFormat
  simp only [F.strip, F.lower, F.lookup, F.hash]
  rw [fmtRgbFn_nat]
  rfl

/-- the reader's `q`, `p` are the maximum and minimum channel, and the saturation is in `(0, 1]` -/
theorem hsl_pq (mx mn : ℚ) (h0 : 0 ≤ mn) (h1 : mx ≤ 1) (hlt : mn < mx) :
    let l := (mx + mn) / 2
    let s := (mx - mn) / (1 - |2 * l - 1|)
    let q := if l < 1/2 then l * (1 + s) else l + s - l * s
    q = mx ∧ 2 * l - q = mn ∧ 0 < s ∧ s ≤ 1 :=
  HslRt.hsl_pq mx mn h0 h1 hlt

/-- all 2^24 colours: the three numbers `rgb_to_hsl` prints, computed exactly, are read back by
    `hsl_to_rgb`, computed exactly, as the same colour -/
theorem hsl_roundtrip_exact (c : RGB) (hc : validRgb c = true) :
    @hslTextToRgb ℚ ratNum (@rgbToHslText ℚ ratNum c) = some c := by
  rw [HslRt.rgbToHslText_rat, HslRt.hslTextToRgb_good (HslRt.good_rgb c hc)]
  simp only [HslRt.rnd_byte]

/-- the numbers `rgb_to_hsl` prints, computed exactly, satisfy `0 ≤ h < 360`, `0 ≤ s% ≤ 100`, `0 ≤ l% ≤ 100` -/
theorem hsl_text_range (c : RGB) (hc : validRgb c = true) :
    0 ≤ (@rgbToHslText ℚ ratNum c).1 ∧ (@rgbToHslText ℚ ratNum c).1 < 360 ∧
    0 ≤ (@rgbToHslText ℚ ratNum c).2.1 ∧ (@rgbToHslText ℚ ratNum c).2.1 ≤ 100 ∧
    0 ≤ (@rgbToHslText ℚ ratNum c).2.2 ∧ (@rgbToHslText ℚ ratNum c).2.2 ≤ 100 := by
  obtain ⟨h0, h1, s0, s1, l0, l1, -⟩ := HslRt.good_rgb c hc
  rw [HslRt.rgbToHslText_rat]
  have c100 : (0 : ℚ) ≤ 100 := by norm_num
  exact ⟨h0, h1, mul_nonneg s0 c100, mul_le_of_le_one_left c100 s1, mul_nonneg l0 c100,
    mul_le_of_le_one_left c100 l1⟩

/-- whatever format is asked for, the value `format_color` produces for a valid colour is read back as exactly that
    colour; the carrier has to read a byte's decimal text (`hα`) and its own `hsl()` numbers (`hH`, which
    `CmProps/C01api.lean` names `HslExact`) exactly -/
theorem format_reads_back_of {α : Type} [Num α] (hα : ByteExact α)
    (hH : ∀ c : RGB, validRgb c = true → hslTextToRgb (rgbToHslText (α := α) c) = some c) {cls : CharCls}
    (hf : AsciiFaithful cls) (named : List (Str × Str)) (hk : keysLower named = true)
    (c : RGB) (hc : validRgb c = true) (f : Fmt) (bg : Option RGB) :
    readBack (α := α) ⟨cls, named⟩ bg (formatColor (α := α) c f) = some c := by
  cases f
  case rgb => exact congrArg Except.toOption (rgbfn_roundtrip_of_byteExact hα hf named hk c hc bg)
  case hsl => exact hH c hc
  case rgbTuple => exact congrArg Except.toOption (tuple_roundtrip _ c hc bg)
  all_goals exact congrArg Except.toOption (hex_roundtrip hf named hk c hc bg)

/-- the same at the exact carrier with the generated keyword table: both carrier hypotheses are theorems there -/
theorem format_reads_back {cls : CharCls} (hf : AsciiFaithful cls) (c : RGB) (hc : validRgb c = true)
    (f : Fmt) (bg : Option RGB) :
    @readBack ℚ ratNum ⟨cls, namedEnv⟩ bg (@formatColor ℚ ratNum c f) = some c :=
  @format_reads_back_of ℚ ratNum rat_byteExact hsl_roundtrip_exact cls hf namedEnv keysLower_namedEnv c hc f bg

/-! `make_readable` answers in the format `_detect_format` found for its text input. -/

/-- the value of `format_color(c, f)` has the shape documented for `f` -/
theorem formatColor_has_shape {α : Type} [Num α] (c : RGB) (f : Fmt) :
    OutShape f (formatColor (α := α) c f) := by
  cases f
  case hsl => exact ⟨_, _, _, rfl⟩
  all_goals exact ⟨_, rfl⟩

/-- byte-exact carrier, faithful oracle, lower-case table, valid tuned colour: the internal re-read
    succeeds and `make_readable` returns exactly `format_color(tuned, format of the text input)` -/
theorem makeReadable_returns_formatted {α : Type} [NumT α] (hα : ByteExact α) (E : PEnv)
    (hf : AsciiFaithful E.cls) (hk : keysLower E.named = true) (O : Leaf α) (d : Descend α)
    (p : ColorPair α) (mode : Int) (very : Bool) (t b : RGB) (ht : p.text.rgb? = some t)
    (hb : p.bg.rgb? = some b) (hv : validRgb (checkAndFix O d t b p.large mode very).1 = true) :
    p.makeReadable E O d mode very =
      some (formatColor (checkAndFix O d t b p.large mode very).1 p.text.fmt,
        (checkAndFix O d t b p.large mode very).2) := by
  obtain ⟨cls, named⟩ := E
  unfold ColorPair.makeReadable
  rw [ht, hb]
  -- the tuple and the `rgb()` text re-read to the same colour: `ite_self`
  simp only [(seq_ints (α := α) ⟨cls, named⟩ _ hv none).1, parseColor_str,
    parseStr_fmtRgbFn hα hf named hk _ hv none, ite_self]

/-- under the same assumptions the shape of the returned colour is determined by the detected format
    of the text input alone -/
theorem makeReadable_format {α : Type} [NumT α] (hα : ByteExact α) (E : PEnv)
    (hf : AsciiFaithful E.cls) (hk : keysLower E.named = true) (O : Leaf α) (d : Descend α)
    (p : ColorPair α) (mode : Int) (very : Bool) (t b : RGB) (ht : p.text.rgb? = some t)
    (hb : p.bg.rgb? = some b) (hv : validRgb (checkAndFix O d t b p.large mode very).1 = true)
    (out : OutVal α) (ok : Bool) (h : p.makeReadable E O d mode very = some (out, ok)) :
    OutShape p.text.fmt out := by
  rw [makeReadable_returns_formatted hα E hf hk O d p mode very t b ht hb hv] at h
  simp only [Option.some.injEq, Prod.mk.injEq] at h
  exact h.1 ▸ formatColor_has_shape _ _

/-- with no assumption at all: the returned colour has the documented shape, or (only if the internal
    re-read raised) it is the raw tuple / `rgb()` text of `check_and_fix_contrast` -/
theorem makeReadable_format_cases {α : Type} [NumT α] (E : PEnv) (O : Leaf α) (d : Descend α)
    (p : ColorPair α) (mode : Int) (very : Bool) (out : OutVal α) (ok : Bool)
    (h : p.makeReadable E O d mode very = some (out, ok)) :
    OutShape p.text.fmt out ∨ ∃ c, out = .tuple c ∨ out = .text (fmtRgbFn c) := by
  obtain ⟨t, b, ht, hb⟩ := SourceApi.makeReadable_some E O d p mode very _ h
  rw [SourceApi.makeReadable_valid E O d p mode very t b ht hb] at h
  cases h
  split
  · exact Or.inl (formatColor_has_shape _ _)
  · refine Or.inr ⟨(checkAndFix O d t b p.large mode very).1, ?_⟩
    unfold Api.checkAndFixOut
    dsimp only
    split
    · exact Or.inl rfl
    · exact Or.inr rfl

end CmProps.C06
