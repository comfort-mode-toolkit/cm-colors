import CmProps.C04api
import CmProps.C01cap
/-!
# C04 — the strict-mode bound, stated about the image of the source

`C04api.makeReadable_strict_le_5` carried over to `make_readable` as translated from `colors.py` on this run. `checkAndFix` and
`Step` in the statement are the model's (see `C01cap.lean`).
-/
namespace CmProps.C04
open Cm Cm.Parse Cm.FmtRt CmProps.C01

/-- mode 0: what the caller reads back from the returned value is the original colour or within CIEDE2000 5.0 of it -/
theorem source_make_readable_strict_le_5 {α : Type} [NumT α] [LawfulNumOrd α] [LawfulLit α]
    (hα : ByteExact α) (hH : HslExact α) (E : PEnv)
    (hf : AsciiFaithful E.cls) (hk : keysLower E.named = true) (O : Leaf α) (d : Descend α) (cond : Nat → Bool)
    (p : ColorPair α) (very show_ save : Bool) (t b : RGB) (ht : p.text.rgb? = some t)
    (hb : p.bg.rgb? = some b) (hv : validRgb (checkAndFix O d t b p.large 0 very).1 = true) (bg' : Option RGB) :
    ∃ out ok c, Prod.fst <$> CmGen.Api.ColorPair_make_readable E O d cond p 0 very show_ save = .ok (some out, ok) ∧
      readBack (α := α) E bg' out = some c ∧ Step O (5.0 : α) t c := by
  obtain ⟨out, ok, c, h, hr, hs⟩ := makeReadable_strict_le_5 hα hH E hf hk O d p very t b ht hb hv bg'
  exact ⟨out, ok, c, (source_make_readable_eq_ok ..).2 h, hr, hs⟩

end CmProps.C04
