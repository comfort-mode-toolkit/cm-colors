import CmProofs.ColorReal
/-!
# C10 — OKLCH

* ranges of `rgbToOklch` at the real-number carrier (`L ∈ [0,1]`, `C ≥ 0`, `H ∈ [0,360)`), hence
  `validOklch (rgbToOklch c)` at ℝ;
* for **any** carrier (no laws): `oklchToRgb` / `oklchToRgbSafe` return valid 8-bit triples and the
  `_safe` wrappers agree with the plain functions on valid data;
* rows of the inverse matrix sum to one, so at ℝ the three linear-light values of an achromatic OKLCH colour
  (`C = 0`) are all `L³` and it maps to a grey (`achromatic_channels`); black and white are exact.
-/
namespace CmProps.C10
open Cm Real

section real
theorem oklch_L_range (c : RGB) :
    0 ≤ (@rgbToOklch ℝ realNum c).1 ∧ (@rgbToOklch ℝ realNum c).1 ≤ 1 := by
  rw [rgbToOklch_real]; exact clamp_range zero_le_one _

theorem oklch_C_nonneg (c : RGB) : 0 ≤ (@rgbToOklch ℝ realNum c).2.1 := by
  rw [rgbToOklch_real]; exact chroma_nonneg _ _

theorem oklch_H_range (c : RGB) :
    0 ≤ (@rgbToOklch ℝ realNum c).2.2 ∧ (@rgbToOklch ℝ realNum c).2.2 < 360 := by
  rw [rgbToOklch_real]
  dsimp only
  split_ifs
  · norm_num
  · exact hueR_range _ _

theorem oklch_valid (c : RGB) : @validOklch ℝ realNum (@rgbToOklch ℝ realNum c) = true :=
  (validOklch_real _ _ _).2
    ⟨⟨oklch_L_range c, oklch_C_nonneg c⟩, (oklch_H_range c).1, (oklch_H_range c).2.le⟩
end real

section anyCarrier
variable {α : Type} [NumT α]

theorem ofOklch_valid (t : α × α × α) : validRgb (oklchToRgb t) = true := by
  obtain ⟨x, y, z, h⟩ := oklchToRgb_quant8 t
  rw [h, validRgb_iff]
  exact ⟨quant8_range x, quant8_range y, quant8_range z⟩

theorem ofOklchSafe_valid (t : α × α × α) : validRgb (oklchToRgbSafe t) = true := by
  unfold oklchToRgbSafe
  -- the grey of the fallback is `quant8 t.1`
  have hf := (validRgb_iff (quant8 t.1, quant8 t.1, quant8 t.1)).2
    ⟨quant8_range _, quant8_range _, quant8_range _⟩
  simp only
  split_ifs
  · exact hf
  · exact hf
  · exact ofOklch_valid t

theorem safe_eq_plain_on_valid (t : α × α × α) (h : validOklch t = true) :
    oklchToRgbSafe t = oklchToRgb t := by
  unfold oklchToRgbSafe
  simp only [h, ofOklch_valid t, Bool.not_true, Bool.false_eq_true, if_false]

theorem safe_eq_plain_on_valid_rgb (c : RGB) (hc : validRgb c = true)
    (h : validOklch (rgbToOklch (α := α) c) = true) :
    rgbToOklchSafe (α := α) c = rgbToOklch c := by
  unfold rgbToOklchSafe
  simp only [hc, h, Bool.not_true, Bool.false_eq_true, if_false]
end anyCarrier

theorem inv_rows_sum_one :
    (4.0767416621 - 3.3077115913 + 0.2309699292 : ℝ) = 1 ∧
    (-1.2684380046 + 2.6097574011 - 0.3413193965 : ℝ) = 1 ∧
    (-0.0041960863 - 0.7034186147 + 1.7076147010 : ℝ) = 1 := by
  norm_num

theorem safeCube_real (x : ℝ) : @safeCube ℝ realNum x = x ^ 3 := by
  unfold safeCube
  simp only [real_mul, real_neg]
  split_ifs <;> ring

theorem achromatic_channels (L H : ℝ) :
    @oklchToRgb ℝ realNum (L, 0, H) =
      (@quant8 ℝ realNum (@linearToSrgb ℝ realNum (max 0 (min 1 (L ^ 3)))),
       @quant8 ℝ realNum (@linearToSrgb ℝ realNum (max 0 (min 1 (L ^ 3)))),
       @quant8 ℝ realNum (@linearToSrgb ℝ realNum (max 0 (min 1 (L ^ 3))))) := by
  unfold oklchToRgb
  simp only [safeCube_real, real_sci, real_add, real_sub, real_mul, real_div, real_neg, real_cos,
    real_sin, real_pi, real_pmax, real_pmin, zero_mul, mul_zero, add_zero, sub_zero]
  -- with `C = 0` the three cone responses are `L³`, and each row of the inverse matrix sums to one
  obtain ⟨h1, h2, h3⟩ := inv_rows_sum_one
  have e1 : (4.0767416621 : ℝ) * L ^ 3 - 3.3077115913 * L ^ 3 + 0.2309699292 * L ^ 3 = L ^ 3 := by
    rw [← sub_mul, ← add_mul, h1, one_mul]
  have e2 : -(1.2684380046 : ℝ) * L ^ 3 + 2.6097574011 * L ^ 3 - 0.3413193965 * L ^ 3 = L ^ 3 := by
    rw [← add_mul, ← sub_mul, h2, one_mul]
  have e3 : -(0.0041960863 : ℝ) * L ^ 3 - 0.7034186147 * L ^ 3 + 1.7076147010 * L ^ 3 = L ^ 3 := by
    rw [← sub_mul, ← add_mul, h3, one_mul]
  rw [e1, e2, e3]
  norm_num only

theorem achromatic_grey (L H : ℝ) :
    let c := @oklchToRgb ℝ realNum (L, 0, H)
    c.1 = c.2.1 ∧ c.2.1 = c.2.2 := by
  intro c
  simp only [c, achromatic_channels, and_self]

theorem roundHE_real_int (n : ℤ) : @Num.roundHE ℝ realNum.toNum (n : ℝ) = n := real_roundHE_int n

theorem quant8_real_zero : @quant8 ℝ realNum 0 = 0 := by
  have := quant8_real_chan 0
  rwa [Int.cast_zero, zero_div] at this

theorem quant8_real_one : @quant8 ℝ realNum 1 = 255 := by
  have := quant8_real_chan 255
  rwa [Int.cast_ofNat, div_self (by norm_num)] at this

theorem linearToSrgb_real_zero : @linearToSrgb ℝ realNum 0 = 0 := by
  rw [linearToSrgb_real, if_pos (by norm_num), mul_zero]

theorem linearToSrgb_real_one : @linearToSrgb ℝ realNum 1 = 1 := by
  rw [linearToSrgb_real, if_neg (by norm_num), Real.one_rpow]; norm_num

theorem black (H : ℝ) : @oklchToRgb ℝ realNum (0, 0, H) = (0, 0, 0) := by
  rw [achromatic_channels, show max (0 : ℝ) (min 1 (0 ^ 3)) = 0 by norm_num, linearToSrgb_real_zero,
    quant8_real_zero]

theorem white (H : ℝ) : @oklchToRgb ℝ realNum (1, 0, H) = (255, 255, 255) := by
  rw [achromatic_channels, show max (0 : ℝ) (min 1 (1 ^ 3)) = 1 by norm_num, linearToSrgb_real_one,
    quant8_real_one]

/-- at ℝ the second hypothesis of `safe_eq_plain_on_valid_rgb` always holds -/
theorem rgbToOklchSafe_real (c : RGB) (hc : validRgb c = true) :
    @rgbToOklchSafe ℝ realNum c = @rgbToOklch ℝ realNum c :=
  @safe_eq_plain_on_valid_rgb ℝ realNum c hc (oklch_valid c)

example : @validOklch ℝ realNum (0.5, 0.1, 30) = true := by
  rw [validOklch_real]; norm_num

/-- both hypotheses of `safe_eq_plain_on_valid_rgb` hold together (ℝ carrier) -/
example : validRgb (12, 200, 255) = true ∧
    @validOklch ℝ realNum (@rgbToOklch ℝ realNum (12, 200, 255)) = true :=
  ⟨by decide, oklch_valid _⟩

end CmProps.C10
