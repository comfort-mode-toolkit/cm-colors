import CmProps.C12
import CmProps.C12api
/-!
# C12 — the property, stated about the image of the source

`C12.lean` proves `Bulk.run = map Bulk.entry` for the model's fold; `C12api.lean` proves that the loop generated from
`cm_colors.py` on this run returns `Bulk.run`, entry by entry. Hence the bulk function of the source on this run returns
one result per entry, in order, each computed from that entry alone.
-/
namespace CmProps.C12
open Cm Cm.Parse
variable {α : Type} [NumT α]

theorem source_bulk_is_map (E : PEnv) (O : Leaf α) (d : Descend α) (cond : Nat → Bool) (mode : Int)
    (very save : Bool) (items : List (BulkItem α)) :
    Prod.fst <$> CmGen.Api.make_readable_bulk E O d cond (items.map Api.rawItem) mode very save =
      .ok (List.zipWith Api.reify items (items.map (Bulk.entry E O d mode very))) := by
  rw [source_make_readable_bulk, bulk_eq_map]

end CmProps.C12
