import CmProofs.SearchComplete
import CmProofs.Schedules
import CmProofs.Strategy
/-!
# C04 — change is bounded

For every carrier with a lawful order, every leaf oracle, every descent function.
"Within `thr`" is `d ≤ thr` (`Num.le d thr = true`).
-/
set_option linter.unusedSectionVars false  -- `gen_empty` carries the section's `[LawfulNumOrd α]` unused
namespace CmProps.C04
open Cm
variable {α : Type} [Num α] [LawfulNumOrd α]

/-- lightness search: `None`, or a valid colour within the tolerance — for any tolerance and target -/
theorem binarySearch_within (O : Leaf α) (t bg : RGB) (thr target : α) (r : RGB)
    (h : binarySearch O t bg thr target = some r) :
    O.validRgb r = true ∧ Num.le (O.deltaE t r) thr = true :=
  let ⟨hv, hd⟩ := binarySearch_inTol O t bg thr target r h
  ⟨hv, le_of_notBeyond hd⟩

/-- lightness-and-chroma descent: `None`, or a valid colour within the tolerance, whatever the
    numeric loop computed -/
theorem gradient_within (O : Leaf α) (d : Descend α) (t bg : RGB) (thr target : α) (r : RGB)
    (h : gradientDescent O d t bg thr target = some r) :
    O.validRgb r = true ∧ Num.le (O.deltaE t r) thr = true :=
  let ⟨hv, hd⟩ := gradient_inTol O d t bg thr target r h
  ⟨hv, le_of_notBeyond hd⟩

/-- multi-phase search, **any** schedule (unsorted, repeated, single-entry, empty): the result is the
    input itself or a valid colour within one of the tolerances given -/
theorem gen_within (O : Leaf α) (d : Descend α) (t bg : RGB) (target minC : α) (sched : List α) :
    let r := genAccessible O d t bg target minC sched
    r = t ∨ (O.validRgb r = true ∧ ∃ thr ∈ sched, Num.le (O.deltaE t r) thr = true) := by
  exact (genAccessible_within O d t bg target minC sched).imp_right fun ⟨thr, hm, hv, hd⟩ =>
    ⟨hv, thr, hm, le_of_notBeyond hd⟩

theorem gen_within_bound (O : Leaf α) (d : Descend α) (t bg : RGB) (target minC : α) (sched : List α)
    (B : α) (hB : ∀ thr ∈ sched, Num.le thr B = true) :
    let r := genAccessible O d t bg target minC sched
    r = t ∨ (O.validRgb r = true ∧ Num.le (O.deltaE t r) B = true) :=
  (genAccessible_within O d t bg target minC sched).bound hB

theorem gen_empty (O : Leaf α) (d : Descend α) (t bg : RGB) (target minC : α) :
    genAccessible O d t bg target minC [] = t := by
  simp only [genAccessible, genLoop]; split <;> rfl

/-- one bounded step: `b` is `a` itself or a valid colour within `B` of `a` -/
def Step (O : Leaf α) (B : α) (a b : RGB) : Prop :=
  b = a ∨ (O.validRgb b = true ∧ Num.le (O.deltaE a b) B = true)

/-- a chain of at most `n` bounded steps -/
inductive Chain (O : Leaf α) (B : α) : Nat → RGB → RGB → Prop
  | nil (n : Nat) (a : RGB) : Chain O B n a a
  | cons {n : Nat} {a b c : RGB} : Step O B a b → Chain O B n b c → Chain O B (n + 1) a c

variable [LawfulLit α]

/-- mode 0: the returned colour is the text itself or within CIEDE2000 5.0 of it -/
theorem strict_le_5 (O : Leaf α) (d : Descend α) (t bg : RGB) (target minC : α) :
    Step O (5.0 : α) t (strategyStrict O d t bg target minC).1 :=
  gen_within_bound O d t bg target minC defaultSchedule (5.0 : α) defaultSchedule_le

theorem recursiveLoop_chain (O : Leaf α) (d : Descend α) (bg : RGB) (target minC : α) (n : Nat) (cur : RGB) :
    Chain O (3.0 : α) n cur (recursiveLoop O d bg target minC n cur).1 :=
  recursiveLoop_path O d bg target minC (Chain O (3.0 : α)) Chain.nil
    (fun _ a _ h => Chain.cons (gen_within_bound O d a bg target minC stepSchedule (3.0 : α) stepSchedule_le) h) n cur

/-- mode 1: the result is the end of a chain of at most 10 steps of ≤ 3.0 starting at the text -/
theorem recursive_chain (O : Leaf α) (d : Descend α) (t bg : RGB) (target minC : α) :
    Chain O (3.0 : α) 10 t (strategyRecursive O d t bg target minC).1 :=
  recursiveLoop_chain O d bg target minC 10 t

/-- mode 2: the result is a ≤10-step chain of ≤ 3.0 steps, or a ≤15-step such chain, or one step
    of ≤ 15.0 — always starting from the original colour -/
theorem relaxed_chain (O : Leaf α) (d : Descend α) (t bg : RGB) (target minC : α) :
    let r := (strategyRelaxed O d t bg target minC).1
    Chain O (3.0 : α) 10 t r ∨ Chain O (3.0 : α) 15 t r ∨ Step O (15.0 : α) t r := by
  intro r
  rcases strategyRelaxed_cases O d t bg target minC with ⟨h, _⟩ | ⟨h, _⟩ | ⟨h, _⟩ <;> simp only [r, h]
  · exact Or.inl (recursive_chain O d t bg target minC)
  · exact Or.inr (Or.inl (recursiveLoop_chain O d bg target minC 15 t))
  · exact Or.inr (Or.inr (gen_within_bound O d t bg target minC relaxedSchedule (15.0 : α) relaxedSchedule_le))

/-- `check_and_fix_contrast`, mode 0, every setting -/
theorem checkAndFix_strict_le_5 (O : Leaf α) (d : Descend α) (t bg : RGB) (large premium : Bool) :
    Step O (5.0 : α) t (checkAndFix O d t bg large 0 premium).1 := by
  rw [checkAndFix_eq, strategyOf_zero]
  split
  · exact Or.inl rfl
  · exact strict_le_5 O d t bg _ _

example (O : Leaf α) (a : RGB) : Chain O (3.0 : α) 2 a a := Chain.cons (Or.inl rfl) (Chain.nil 1 a)

end CmProps.C04
