import CmProps.C14
import CmProps.C12
import CmProofs.ParseTotal
import CmProofs.ColorNew
/-!
# C14 — invalid colour input is reported, never raised (totality theorems)

"Constructing `Color` or `ColorPair` from any string, or from any list or tuple (of any length) of
numbers, numeric or arbitrary strings, `None` or booleans, never raises: the object is either valid
with an rgb of three ints in 0..255, or invalid with a non-empty error message and rgb `None`. On an
invalid pair `is_readable` is 'Not Readable', `make_readable` returns `(None, False)`, and the bulk
API reports that entry as invalid and carries on with the rest."

* §1–§3 and §5 hold for **every** carrier (`[Num α]` / `[NumT α]`, no laws), every environment
  `E : PEnv` (any Unicode oracle, any keyword table), every `PyVal α` (nested lists/tuples of any
  length included) and every background.
* §4 (the valid state carries 8-bit channels): for every carrier the explicitly validated branches
  (`parseColor_ok_cases`, `seq3_valid_or_hsl`, `parseStr_valid_or_kernel`, `hex_valid`); for the
  exact rational carrier `ratNum` all branches (`parse_ok_valid`). At an abstract carrier
  `Num.roundHE` / `Num.trunc` / `Num.floor` may return any integer, so validity of the HSL and
  compositing outputs is not a theorem there; at `Float` it rests on the trusted-base assumption that
  floating-point rounding of a value in `[0, 255]` stays in `[0, 255]`.
* the model's `.invalid` state *is* "`_error` set to a non-empty message, `rgb` is `None`"
  (`CmModel/Color.lean`); the message text itself is not modelled.
-/
namespace CmProps.C14
open Cm Cm.Parse Cm.ParseTotal

/-! ## 1. the parser raises `ValueError` or `TypeError` only -/
section errors
variable {α : Type} [Num α]

/-- `parse_color_to_rgb` raises `ValueError` or `TypeError` only, whatever it is given.
    No model function produces `OverflowError`: in CPython it arises from `float(n)` for an `int`
    beyond the double range, and such integers are outside the modelled input domain. -/
theorem parseColor_errors (E : PEnv) (v : PyVal α) (bg : Option RGB) (e : PyErr)
    (h : parseColor E v bg = .error e) : e = .valueError ∨ e = .typeError :=
  Cm.ParseTotal.parseColor_errors E v bg e h

/-! the per-function lemmas, in plain form -/

theorem hexToRgb_errors (E : PEnv) (s : Str) (e : PyErr) (h : hexToRgb E s = .error e) :
    e = .valueError := Cm.ParseTotal.hexToRgb_errors e h
theorem rangeToken_errors (v : α) (c : Bool) (e : PyErr) (h : rangeToken v c = .error e) :
    e = .valueError := Cm.ParseTotal.rangeToken_errors e h
theorem numberToken_errors (E : PEnv) (t : Str) (c : Bool) (e : PyErr)
    (h : numberToken (α := α) E t c = .error e) : e = .valueError :=
  Cm.ParseTotal.numberToken_errors e h
theorem numberTokenOfVal_errors (E : PEnv) (v : PyVal α) (c : Bool) (e : PyErr)
    (h : numberTokenOfVal E v c = .error e) : e = .valueError :=
  Cm.ParseTotal.numberTokenOfVal_errors e h
theorem pctOrDec_errors (E : PEnv) (s : Str) (e : PyErr) (h : pctOrDec (α := α) E s = .error e) :
    e = .valueError := Cm.ParseTotal.pctOrDec_errors e h
theorem parseHue_errors (E : PEnv) (s : Str) (e : PyErr) (h : parseHue (α := α) E s = .error e) :
    e = .valueError := Cm.ParseTotal.parseHue_errors e h
theorem hslFinish_errors (h s l : α) (e : PyErr) (he : hslFinish h s l = .error e) :
    e = .valueError := Cm.ParseTotal.hslFinish_errors e he
theorem hslStrToRgb_errors (E : PEnv) (s : Str) (e : PyErr)
    (h : hslStrToRgb (α := α) E s = .error e) : e = .valueError :=
  Cm.ParseTotal.hslStrToRgb_errors e h
theorem hslSeqToRgb_errors (E : PEnv) (h s l : PyVal α) (e : PyErr)
    (he : hslSeqToRgb E h s l = .error e) : e = .valueError :=
  Cm.ParseTotal.hslSeqToRgb_errors e he
theorem hslaFinish_errors (h s l a : α) (bg : Option RGB) (e : PyErr)
    (he : hslaFinish h s l a bg = .error e) : e = .valueError :=
  Cm.ParseTotal.hslaFinish_errors e he
theorem hslaStrToRgb_errors (E : PEnv) (s : Str) (bg : Option RGB) (e : PyErr)
    (h : hslaStrToRgb (α := α) E s bg = .error e) : e = .valueError :=
  Cm.ParseTotal.hslaStrToRgb_errors e h
/-- `float(v)`: `TypeError` for `None` and containers, `ValueError` for text `float()` rejects -/
theorem toFloat_errors (cls : CharCls) (v : PyVal α) (e : PyErr) (h : v.toFloat cls = .error e) :
    e = .valueError ∨ e = .typeError := Cm.ParseTotal.toFloat_errors e h
/-- the only source of `TypeError`: `hsla_to_rgb` applied to a 4-sequence calls `float()` on each
    element -/
theorem hslaSeqToRgb_errors (E : PEnv) (h s l a : PyVal α) (bg : Option RGB) (e : PyErr)
    (he : hslaSeqToRgb E h s l a bg = .error e) : e = .valueError ∨ e = .typeError :=
  Cm.ParseTotal.hslaSeqToRgb_errors e he
theorem rgbaToRgb_errors (r g b : Int) (a : α) (bg : RGB) (e : PyErr)
    (h : rgbaToRgb r g b a bg = .error e) : e = .valueError :=
  Cm.ParseTotal.rgbaToRgb_errors e h
theorem rgbComponent_errors (E : PEnv) (c : PyVal α) (e : PyErr)
    (h : rgbComponent E c = .error e) : e = .valueError :=
  Cm.ParseTotal.rgbComponent_errors e h
theorem bgParsed_errors (bg : Option RGB) (e : PyErr) (h : bgParsed bg = .error e) :
    e = .valueError := Cm.ParseTotal.bgParsed_errors e h
theorem parseStr_errors (E : PEnv) (s : Str) (bg : Option RGB) (e : PyErr)
    (h : parseStr (α := α) E s bg = .error e) : e = .valueError :=
  Cm.ParseTotal.parseStr_errors e h

/-! ## 2. `Color(...)` never raises -/

/-- the background triple `Color.__init__` hands to the parser: the context colour's `rgb` -/
def ctxBg (ctx : Option (Color α)) : Option RGB :=
  match ctx with | some c => c.rgb? | none => none

/-- `Color.new_eq` with the background written `ctxBg ctx` -/
private theorem new_eq (E : PEnv) (v : PyVal α) (ctx : Option (Color α)) :
    Color.new E v ctx =
      { fmt := detectFormat E v
        state := match parseColor E v (ctxBg ctx) with
          | .ok c => .valid c
          | .error _ => .invalid } := Color.new_eq E v ctx

theorem new_of_ok (E : PEnv) (v : PyVal α) (ctx : Option (Color α)) (c : RGB)
    (h : parseColor E v (ctxBg ctx) = .ok c) :
    Color.new E v ctx = { fmt := detectFormat E v, state := .valid c } := by
  rw [new_eq, h]

theorem new_of_error (E : PEnv) (v : PyVal α) (ctx : Option (Color α)) (e : PyErr)
    (h : parseColor E v (ctxBg ctx) = .error e) :
    Color.new E v ctx = { fmt := detectFormat E v, state := .invalid } := by
  rw [new_eq, h]

/-- the constructor never lets an exception escape: by cases, `_parse` catches all three kinds of `PyErr`
    (`CmModel/Color.lean`). The content of "never raises" is §1 (only `ValueError` / `TypeError` arise) and
    `C14api.source_color_parse` (the caught kinds are read from the `except` clause) -/
theorem color_total (E : PEnv) (v : PyVal α) (ctx : Option (Color α)) (e : PyErr) :
    (Color.new E v ctx).state ≠ .raised e := by
  rw [new_eq]
  cases parseColor E v (ctxBg ctx) with
  | ok c => simp
  | error e' => simp

/-! ## 3. the two states -/

/-- a constructed `Color` is valid with `rgb = c` (the parser's result), or invalid with
    `rgb = None` (the parser raised) -/
theorem color_states (E : PEnv) (v : PyVal α) (ctx : Option (Color α)) :
    (∃ c, (Color.new E v ctx).state = .valid c ∧ (Color.new E v ctx).rgb? = some c ∧
        (Color.new E v ctx).isValid = true ∧ parseColor E v (ctxBg ctx) = .ok c) ∨
    ((Color.new E v ctx).state = .invalid ∧ (Color.new E v ctx).rgb? = none ∧
        (Color.new E v ctx).isValid = false ∧ ∃ e, parseColor E v (ctxBg ctx) = .error e) := by
  rw [new_eq]
  cases parseColor E v (ctxBg ctx) with
  | ok c => exact Or.inl ⟨c, rfl, rfl, rfl, rfl⟩
  | error e => exact Or.inr ⟨rfl, rfl, rfl, e, rfl⟩

omit [Num α] in
/-- `is_valid` ⇔ the state is `valid` (for any `Color` object) -/
theorem isValid_iff (c : Color α) : c.isValid = true ↔ ∃ rgb, c.state = .valid rgb := by
  unfold Color.isValid Color.rgb?
  cases c.state <;> simp

omit [Num α] in
/-- `rgb` is a triple exactly on valid objects, `None` otherwise -/
theorem rgb_none_iff (c : Color α) : c.rgb? = none ↔ c.isValid = false := by
  unfold Color.isValid
  cases c.rgb? <;> simp

end errors

/-! ## 4. a valid object carries 8-bit channels -/
section valid
variable {α : Type} [Num α]

/-- **every carrier**: a successful parse was validated explicitly (first disjunct: keywords, hex
    notations, 3-sequences and three-number strings, all through `is_valid_rgb`), or is the output
    of `hsl_to_rgb` on a hue reduced mod 360, of `hsla_to_rgb`, or of `rgba_to_rgb` -/
theorem parseColor_ok_cases (E : PEnv) (v : PyVal α) (bg : Option RGB) (c : RGB)
    (h : parseColor E v bg = .ok c) :
    validRgb c = true ∨
    (∃ x s l : α, hslFinish (Num.pmod x (360.0 : α)) s l = .ok c) ∨
    (∃ h s l a : α, hslaFinish h s l a bg = .ok c) ∨
    (∃ (r g b : Int) (a : α) (k : RGB), rgbaToRgb r g b a k = .ok c) :=
  (parseColor_kernel E v bg).value h

/-- **every carrier**: `hex_to_rgb` yields 8-bit channels -/
theorem hex_valid (E : PEnv) (s : Str) (c : RGB) (h : hexToRgb E s = .ok c) : validRgb c = true :=
  (hexToRgb_valid E s).value h

/-- **every carrier**: a 3-tuple / 3-list result is valid unless it came from `hsl_to_rgb` -/
theorem seq3_valid_or_hsl (E : PEnv) (r g b : PyVal α) (bg : Option RGB) (c : RGB) :
    (parseColor E (.tuple [r, g, b]) bg = .ok c → validRgb c = true ∨ hslSeqToRgb E r g b = .ok c) ∧
    (parseColor E (.list [r, g, b]) bg = .ok c → validRgb c = true ∨ hslSeqToRgb E r g b = .ok c) := by
  rw [parseColor_list]
  exact ⟨(seq3_cases E r g b bg).value, (seq3_cases E r g b bg).value⟩

/-- **every carrier**: a parsed string is valid (keyword, hex, three numeric tokens — e.g. every
    `rgb(r, g, b)`) unless it starts with `hsla(` / `hsl(` or carries four or more numeric tokens -/
theorem parseStr_valid_or_kernel (E : PEnv) (s : Str) (bg : Option RGB) (c : RGB)
    (h : parseStr (α := α) E s bg = .ok c) :
    validRgb c = true ∨
    (Str.startsWith (Str.lower E.cls (Str.strip E.cls s)) "hsla(".toList = true ∧
      hslaStrToRgb (α := α) E (Str.strip E.cls s) bg = .ok c) ∨
    (Str.startsWith (Str.lower E.cls (Str.strip E.cls s)) "hsl(".toList = true ∧
      hslStrToRgb (α := α) E (Str.strip E.cls s) = .ok c) ∨
    (4 ≤ (NumRe.findAll E.cls (Str.lower E.cls (Str.strip E.cls s))).length ∧
      ∃ (r g b : Int) (a : α) (k : RGB), rgbaToRgb r g b a k = .ok c) :=
  (parseStr_cases E s bg).value h

private theorem startsWith_of_prefix {t p q : Str} (hpq : p <+: q) (h : Str.startsWith t q = true) :
    Str.startsWith t p = true := by
  unfold Str.startsWith at h ⊢
  rw [List.isPrefixOf_iff_prefix] at h ⊢
  exact hpq.trans h

/-- **every carrier**: a string with fewer than four numeric tokens that is not an `hsl(`/`hsla(`
    function parses to a valid colour or not at all -/
theorem parseStr_valid_of_few_tokens (E : PEnv) (s : Str) (bg : Option RGB) (c : RGB)
    (h : parseStr (α := α) E s bg = .ok c)
    (hh : Str.startsWith (Str.lower E.cls (Str.strip E.cls s)) "hsl".toList = false)
    (hn : (NumRe.findAll E.cls (Str.lower E.cls (Str.strip E.cls s))).length < 4) :
    validRgb c = true := by
  rcases parseStr_valid_or_kernel E s bg c h with h | ⟨h, -⟩ | ⟨h, -⟩ | ⟨h, -⟩
  · exact h
  · cases hh.symm.trans (startsWith_of_prefix (by decide) h)
  · cases hh.symm.trans (startsWith_of_prefix (by decide) h)
  · omega

/-- **exact carrier**: every successful parse over a valid (or absent) background is a valid
    colour: three integers in `0..255` -/
theorem parse_ok_valid (E : PEnv) (v : PyVal ℚ) (bg : Option RGB)
    (hbg : ∀ b, bg = some b → validRgb b = true) (c : RGB)
    (h : @parseColor ℚ ratNum E v bg = .ok c) : validRgb c = true :=
  kernel_valid_Q bg hbg c ((@parseColor_kernel ℚ ratNum E v bg).value h)

/-- **exact carrier**: a valid `Color` built without context, or in the context of a `Color` with
    valid channels, has valid channels -/
theorem color_valid_rgb (E : PEnv) (v : PyVal ℚ) (ctx : Option (Color ℚ))
    (hctx : ∀ k b, ctx = some k → k.rgb? = some b → validRgb b = true) (c : RGB)
    (h : (@Color.new ℚ ratNum E v ctx).rgb? = some c) : validRgb c = true := by
  rcases @color_states ℚ ratNum E v ctx with ⟨c', -, h2, -, hp⟩ | ⟨-, h2, -⟩
  · rw [h2] at h
    cases h
    refine parse_ok_valid E v _ ?_ c hp
    intro b hb
    cases ctx with
    | none => cases hb
    | some k => exact hctx k b rfl hb
  · rw [h2] at h; cases h

/-- **exact carrier**: both colours of a `ColorPair(text, bg)` (background parsed first and handed
    to the text colour as compositing context) have valid channels whenever they are valid -/
theorem pair_valid_rgb (E : PEnv) (t b : PyVal ℚ) (c : RGB) :
    ((@Color.new ℚ ratNum E b none).rgb? = some c → validRgb c = true) ∧
    ((@Color.new ℚ ratNum E t (some (@Color.new ℚ ratNum E b none))).rgb? = some c →
      validRgb c = true) := by
  have hb : ∀ c, (@Color.new ℚ ratNum E b none).rgb? = some c → validRgb c = true :=
    fun c => color_valid_rgb E b none (fun _ _ h => by cases h) c
  refine ⟨hb c, color_valid_rgb E t _ ?_ c⟩
  intro k b' hk hb'
  cases hk
  exact hb b' hb'

end valid

/-! ## 5. invalid pairs, and the bulk API -/
section pair
variable {α : Type} [NumT α]

/-- `ColorPair(...)` never raises -/
theorem pair_total (E : PEnv) (t b : PyVal α) (large : Bool) (e : PyErr) :
    (ColorPair.new E t b large).text.state ≠ .raised e ∧
    (ColorPair.new E t b large).bg.state ≠ .raised e := by
  simp only [ColorPair.new]
  exact ⟨color_total E t _ e, color_total E b none e⟩

/-- on an invalid pair (any `ColorPair` object, in particular a constructed one) `is_readable` is
    'Not Readable' and `make_readable` returns `(None, False)`, whatever the oracle, descent, mode
    and setting -/
theorem pair_invalid_behaviour (p : ColorPair α) (h : p.isValid = false) :
    p.isReadable = "Not Readable" ∧
    ∀ (E : PEnv) (O : Leaf α) (d : Descend α) (mode : Int) (very : Bool),
      p.makeReadable E O d mode very = none := by
  unfold ColorPair.isValid Color.isValid at h
  unfold ColorPair.isReadable ColorPair.makeReadable
  cases ht : p.text.rgb? with
  | none => exact ⟨rfl, fun _ _ _ _ _ => rfl⟩
  | some t =>
    cases hb : p.bg.rgb? with
    | none => exact ⟨rfl, fun _ _ _ _ _ => rfl⟩
    | some b => rw [ht, hb] at h; cases h

theorem pair_new_invalid_behaviour (E : PEnv) (t b : PyVal α) (large : Bool)
    (h : (ColorPair.new E t b large).isValid = false) :
    (ColorPair.new E t b large).isReadable = "Not Readable" ∧
    ∀ (O : Leaf α) (d : Descend α) (mode : Int) (very : Bool),
      (ColorPair.new E t b large).makeReadable E O d mode very = none :=
  ⟨(pair_invalid_behaviour _ h).1, fun O d mode very => (pair_invalid_behaviour _ h).2 E O d mode very⟩

/-- a pair is invalid as soon as one of its two inputs fails to parse -/
theorem pair_invalid_iff (E : PEnv) (t b : PyVal α) (large : Bool) :
    (ColorPair.new E t b large).isValid = false ↔
      (ColorPair.new E t b large).text.state = .invalid ∨
      (ColorPair.new E t b large).bg.state = .invalid := by
  unfold ColorPair.isValid
  rw [Bool.and_eq_false_iff]
  have key : ∀ (v : PyVal α) (ctx : Option (Color α)),
      (Color.new E v ctx).isValid = false ↔ (Color.new E v ctx).state = .invalid := by
    intro v ctx
    rcases color_states E v ctx with ⟨c, h1, -, h3, -⟩ | ⟨h1, -, h3, -⟩
    · rw [h1, h3]; simp
    · rw [h1, h3]; simp
  unfold ColorPair.new
  simp only [key]

/-- the bulk loop body on an entry whose pair is invalid: the entry's own colour, status
    `"invalid color"` -/
theorem bulk_entry_invalid (E : PEnv) (O : Leaf α) (d : Descend α) (mode : Int) (very : Bool)
    (it : BulkItem α) (h : (ColorPair.new E it.text it.bg it.large).isValid = false) :
    Bulk.entry E O d mode very it = { colour := .original, status := "invalid color" } := by
  unfold Bulk.entry
  simp [h]

/-- the bulk API reports an invalid entry as such and carries on with the rest: the entries before
    and after it are processed exactly as they would be on their own -/
theorem bulk_carries_on (E : PEnv) (O : Leaf α) (d : Descend α) (mode : Int) (very : Bool)
    (xs ys : List (BulkItem α)) (bad : BulkItem α)
    (h : (ColorPair.new E bad.text bad.bg bad.large).isValid = false) :
    Bulk.run E O d mode very (xs ++ [bad] ++ ys) =
      Bulk.run E O d mode very xs ++ [{ colour := .original, status := "invalid color" }] ++
        Bulk.run E O d mode very ys := by
  simp only [CmProps.C12.bulk_eq_map, List.map_append, List.map_cons, List.map_nil,
    bulk_entry_invalid E O d mode very bad h]

/-- the bulk API never stops early: one result per entry, however many entries are invalid -/
theorem bulk_total (E : PEnv) (O : Leaf α) (d : Descend α) (mode : Int) (very : Bool)
    (items : List (BulkItem α)) :
    (Bulk.run E O d mode very items).length = items.length :=
  CmProps.C12.bulk_length E O d mode very items

end pair

/-! ## 6. non-vacuity: both error classes occur, and end up as `invalid` -/
section examples

/-- the environment of the examples: ASCII classes, no keywords -/
def exEnv : PEnv := ⟨asciiCls, []⟩

/-- `(0.5, 0.5, 0.5, None)`: routed to `hsla_to_rgb`, whose `float(None)` raises `TypeError` -/
theorem ex_none_typeError : @parseColor ℚ ratNum exEnv
    (.tuple [.float (1/2 : ℚ), .float (1/2 : ℚ), .float (1/2 : ℚ), .none]) none = .error .typeError := by
  decide +kernel

/-- `Color(...)` records it as an invalid colour -/
theorem ex_none_invalid : (@Color.new ℚ ratNum exEnv
    (.tuple [.float (1/2 : ℚ), .float (1/2 : ℚ), .float (1/2 : ℚ), .none]) none).state = .invalid := by
  decide +kernel

/-- a 5-tuple: `ValueError` -/
theorem ex_five_valueError : @parseColor ℚ ratNum exEnv
    (.tuple [.int 1, .int 2, .int 3, .int 4, .int 5]) none = .error .valueError := by
  decide +kernel

theorem ex_five_invalid : (@Color.new ℚ ratNum exEnv
    (.tuple [.int 1, .int 2, .int 3, .int 4, .int 5]) none).state = .invalid := by
  decide +kernel

/-- arbitrary text, and a string where a number is expected: invalid, not raised -/
theorem ex_text_invalid :
    (@Color.new ℚ ratNum exEnv (.str "no such colour".toList) none).state = .invalid ∧
    (@Color.new ℚ ratNum exEnv (.tuple [.str "x".toList, .int 0, .bool true]) none).state = .invalid := by
  decide +kernel

/-- the valid side is inhabited too -/
theorem ex_valid :
    (@Color.new ℚ ratNum exEnv (.tuple [.int 255, .str "50%".toList, .bool true]) none).state =
      .valid (255, 128, 1) := by
  decide +kernel

/-- the hypothesis of `parse_ok_valid` on the background is needed: `hsla_to_rgb` composites over
    whatever triple it is handed without validating it (the RGBA paths do validate, `bgParsed`).
    `Color` only ever passes the `rgb` of an already constructed `Color`, which is valid
    (`pair_valid_rgb`). -/
theorem ex_bg_hypothesis_needed : @parseColor ℚ ratNum exEnv
    (.tuple [.float (0 : ℚ), .float (0 : ℚ), .float (0 : ℚ), .float (1/2 : ℚ)]) (some (1000, 0, 0)) =
      .ok (500, 0, 0) := by
  decide +kernel

end examples

end CmProps.C14
