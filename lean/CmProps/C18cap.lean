import CmProps.C18cli
import CmProps.C18main
import CmProps.C09cli
import CmProps.C18src
/-!
# C18 / C09 — the batch properties, stated about the image of the source

`C18cli.lean` / `C09cli.lean` prove per-file independence, order independence and "outputs are never inputs" for the model's
`Cm.Fs.run`; `C18main.lean` proves that the per-file loop of `main`, as translated from `cli/main.py`, *is*
`Cm.Fs.run`. Hence, about the source as translated:
-/
namespace CmProps.C18
open Cm Cm.Cli Cm.Fs

/-- traversal order does not matter: a permutation of the files gives a permutation of the written files and of the
    reported errors -/
theorem source_run_order_independent (env : CliEnv) (cfg : Cfg) (files files' : List (Str × FileIn)) (h : files.Perm files') :
    (CmGen.CliMain.main_run env cfg files).writes.Perm (CmGen.CliMain.main_run env cfg files').writes ∧
    (CmGen.CliMain.main_run env cfg files).errors.Perm (CmGen.CliMain.main_run env cfg files').errors := by
  rw [source_run, source_run]
  exact run_writes_perm env cfg files files' h

/-- what a file yields on its own it also yields in any batch that contains it -/
theorem source_run_per_file (env : CliEnv) (cfg : Cfg) (name : Str) (fi : FileIn) (files : List (Str × FileIn))
    (hm : (name, fi) ∈ files) :
    ∀ w ∈ (CmGen.CliMain.main_run env cfg [(name, fi)]).writes, w ∈ (CmGen.CliMain.main_run env cfg files).writes := by
  rw [source_run, source_run]
  exact (run_alone env cfg name fi).2 files hm

/-- no file the run writes is one of the discovered inputs -/
theorem source_writes_not_inputs (env : CliEnv) (cfg : Cfg) (dir : List Str) (files : List (Str × FileIn))
    (hfiles : ∀ f ∈ files, f.1 ∈ CmGen.CliSrc.get_css_files_dir dir) (w : Str × List Node)
    (hw : w ∈ (CmGen.CliMain.main_run env cfg files).writes) :
    w.1 ∉ CmGen.CliSrc.get_css_files_dir dir ∧ ∀ f ∈ files, w.1 ≠ f.1 := by
  rw [source_run] at hw
  rw [source_get_css_files_dir] at hfiles ⊢
  exact CmProps.C09.writes_not_inputs env cfg dir files hfiles w hw

end CmProps.C18
