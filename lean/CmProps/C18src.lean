import CmProofs.CliFs
import CmGen.CliSrc
/-!
# C18 — file discovery of `cli/main.py`, as translated from the source

`get_css_files` (generated into `CmGen/CliSrc.lean` by `harness/translate/clisrc.py`): in directory mode the entries
yielded are exactly the model's `discovered` (names ending in `.css` that do not end in `_cm.css`), about which
`discovered_not_cm`, `outputs_not_inputs`, `rerun_discovers_same` are proved; a single file is taken only if its
`pathlib` suffix is `.css`, which makes it a `.css` name, so the output-name theorems apply to it.
-/
namespace CmProps.C18
open Cm Cm.Cli Cm.Fs

/-- directory mode: `rglob("*.css")` minus names ending in `_cm.css` is the model's discovery -/
theorem source_get_css_files_dir (names : List Str) : CmGen.CliSrc.get_css_files_dir names = discovered names := by
  unfold CmGen.CliSrc.get_css_files_dir discovered isCssName isCmName
  rw [List.filter_filter]
  congr 1
  funext n
  exact Bool.and_comm _ _

private theorem endsWith_drop (name : Str) (i : Nat) : endsWith name (name.drop i) = true :=
  (endsWith_iff _ _).2 ⟨name.take i, (List.take_append_drop i name).symm⟩

/-- single-file mode: a path is taken only if its name ends in `.css` -/
theorem source_get_css_files_file (name : Str) (h : CmGen.CliSrc.get_css_files_file name = true) :
    isCssName name = true := by
  unfold CmGen.CliSrc.get_css_files_file at h
  have h2 : (stemSuffix name).2 = ".css".toList := of_decide_eq_true h
  unfold stemSuffix at h2
  unfold isCssName
  split at h2
  · split at h2
    · simp only at h2
      rw [← h2]
      exact endsWith_drop name _
    · simp at h2
  · simp at h2

end CmProps.C18
