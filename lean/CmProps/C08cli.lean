import CmProofs.CliOutput
import CmProofs.CliFs
import CmProofs.CliDemo
/-!
# C08 — every rule with a text colour is classified exactly once; what is reported is what is written

Statements over the CLI model (`Cm.Cli`), for every character-class oracle `env`, every configuration `cfg` (hence every
`pairEval`) and every stylesheet. The words of the statements (`seenItems`, `hasColor`, `countNodes`, `verdict`, `evalOf`,
`viaVarOf`, `resSt`, `relNode`, …) are defined in `CmProofs.CliRule` (`countNodes`, `relNode` in `CliTree`), each with
the piece of `process_nodes_recursive` it names.

Known finding K1 (a custom property adjusted for several rules): when a rule is adjusted through `var(--x)`, the value written
is the *definition* of `--x`, and a later rule using `--x` may rewrite it again. `adjusted_written` therefore states "reported =
written" at the moment the rule is processed, `written_in_file_direct` carries it to the written file for directly rewritten
rules, and the file-level statement for the custom-property branch (under "no later rule readjusts `--x`") is
`reported_is_written_var_of_no_readjust` in `C08var.lean`.
-/
namespace CmProps.C08
open Cm Cm.Cli Cm.Fs

/-! Some of the next theorems restate a lemma of `Cm.Cli` under its own name (hence `Cm.Cli.…` where the original is meant). -/

theorem hasColor_iff (items : List Item) : hasColor items = true ↔ lastDecl items "color".toList ≠ none := by
  unfold hasColor; cases lastDecl items "color".toList <;> simp

/-- nested rules are looked at through their own declaration list -/
theorem seenItems_nested (items0 : List Item) (st : St) : seenItems none items0 st = items0 :=
  Cm.Cli.seenItems_none items0 st

/-- a top-level `:root` / `html` rule is looked at through its shared pre-parsed block -/
theorem seenItems_top (i : Nat) (items0 : List Item) (st : St) :
    seenItems (some i) items0 st = (getRoot st i).getD items0 := Cm.Cli.seenItems_some i items0 st

theorem countNodes_nil : countNodes [] = 0 := by simp only [countNodes]

theorem countNodes_cons (n : Node) (ns : List Node) : countNodes (n :: ns) = countNode n + countNodes ns := by
  simp only [countNodes]

theorem countNode_rule (sel : Str) (items : List Item) :
    countNode (.rule sel items) = if hasColor items then 1 else 0 := by simp only [countNode, countItems]

theorem countNode_at (kw pre : Str) (body : List Node) :
    countNode (.at kw pre body) = if kw = "media".toList || kw = "supports".toList then countNodes body else 0 := by
  simp only [countNode]; rfl

theorem countNode_other (t : Str) (ok : Bool) : countNode (.other t ok) = 0 := by simp only [countNode]

theorem verdict_def (r : PairResult) :
    verdict r = if r.raised then .failed false else if !r.valid then .failed true else if r.meets then .accessible
      else if !r.ok then .failed false else .tuned := rfl

/-- `setDeclValue` keeps the length, and position-wise the names, lower-cased names and `!important` flags -/
theorem setDeclValue_sameShape (items : List Item) (k : Nat) (v : Str) : sameShape items (setDeclValue items k v) :=
  Cm.Cli.setDeclValue_sameShape items k v

theorem lastDecl_sameShape (n : Str) {a b : List Item} (h : sameShape a b) :
    (lastDecl a n).map (·.1) = (lastDecl b n).map (·.1) := Cm.Cli.lastDecl_sameShape n h

theorem setDeclValue_lastDecl_none (items : List Item) (k : Nat) (v n : Str) :
    lastDecl (setDeclValue items k v) n = none ↔ lastDecl items n = none := by
  have h := Cm.Cli.lastDecl_isSome_sameShape n (Cm.Cli.setDeclValue_sameShape items k v)
  cases h1 : lastDecl items n <;> cases h2 : lastDecl (setDeclValue items k v) n <;> simp [h1, h2] at h ⊢

/-- a rewritten (shared) block has a text colour iff the original had -/
theorem hasColor_setDeclValue (items : List Item) (k : Nat) (v : Str) :
    hasColor (setDeclValue items k v) = hasColor items :=
  (Cm.Cli.hasColor_sameShape (Cm.Cli.setDeclValue_sameShape items k v)).symm

/-- a rule without a text colour is returned as seen and changes nothing -/
theorem rule_without_colour (env : CliEnv) (cfg : Cfg) (top : Option Nat) (sel : Str) (items0 : List Item) (st : St)
    (h : hasColor (seenItems top items0 st) = false) :
    processRule env cfg top sel items0 st = .ok (seenItems top items0 st, st) := by
  rw [processRule_eq_verdict]
  unfold hasColor at h
  cases hl : lastDecl (seenItems top items0 st) "color".toList with
  | none => rfl
  | some p => rw [hl] at h; cases h

/-- the counters grow in total by 1 if the rule has a text colour and by 0 otherwise, and each detail list grows exactly with its
    counter — also when re-serialising the rewritten rule fails -/
theorem processRule_counts (env : CliEnv) (cfg : Cfg) (top : Option Nat) (sel : Str) (items0 : List Item) (st : St) :
    let st' := resSt (processRule env cfg top sel items0 st)
    st'.accessible + st'.tuned + st'.failed =
      st.accessible + st.tuned + st.failed + (if hasColor (seenItems top items0 st) then 1 else 0) ∧
    st.accessible ≤ st'.accessible ∧ st.tuned ≤ st'.tuned ∧ st.failed ≤ st'.failed ∧
    st'.failedDetails.length + st.failed = st.failedDetails.length + st'.failed ∧
    st'.fixedDetails.length + st.tuned = st.fixedDetails.length + st'.tuned := by
  have h := processRule_grew env cfg top sel items0 st
  exact ⟨h.total, h.acc, h.tuned, h.failed, h.failedLen, h.fixedLen⟩

/-- a rule with a text colour bumps exactly one counter by one: "already readable" leaves both lists alone, "adjusted" pushes
    one `Fixed` record and "needs attention" one `Failed` record, each carrying the rule's selector -/
theorem rule_counted_once (env : CliEnv) (cfg : Cfg) (top : Option Nat) (sel : Str) (items0 : List Item) (st : St)
    (h : hasColor (seenItems top items0 st) = true) :
    let st' := resSt (processRule env cfg top sel items0 st)
    (st'.accessible = st.accessible + 1 ∧ st'.tuned = st.tuned ∧ st'.failed = st.failed ∧
        st'.failedDetails = st.failedDetails ∧ st'.fixedDetails = st.fixedDetails) ∨
    (st'.accessible = st.accessible ∧ st'.tuned = st.tuned + 1 ∧ st'.failed = st.failed ∧
        st'.failedDetails = st.failedDetails ∧ ∃ f : Fixed, st'.fixedDetails = f :: st.fixedDetails ∧ f.selector = sel) ∨
    (st'.accessible = st.accessible ∧ st'.tuned = st.tuned ∧ st'.failed = st.failed + 1 ∧
        st'.fixedDetails = st.fixedDetails ∧ ∃ f : Failed, st'.failedDetails = f :: st.failedDetails ∧ f.selector = sel) := by
  rw [processRule_eq_verdict]
  unfold hasColor at h
  cases hl : lastDecl (seenItems top items0 st) "color".toList with
  | none => rw [hl] at h; cases h
  | some p =>
    obtain ⟨ci, cd⟩ := p
    dsimp only
    cases verdict (evalOf env cfg st (seenItems top items0 st) cd) with
    | accessible => exact .inl ⟨rfl, rfl, rfl, rfl, rfl⟩
    | failed inv => exact .inr (.inr ⟨rfl, rfl, rfl, rfl, _, rfl, rfl⟩)
    | tuned =>
      obtain ⟨hacc, htuned, hfailed, hfailedDetails, hfixedDetails⟩ := tunedStep_sameCounts env cfg top sel items0 st ci cd
      exact .inr (.inl ⟨hacc, htuned, hfailed, hfailedDetails, _, hfixedDetails, rfl⟩)

/-- which counter moves is decided by `pairEval`'s verdict on the resolved pair: readable rules and rules
    needing attention are returned exactly as seen, with the `Failed` record naming selector and pair -/
theorem rule_by_verdict (env : CliEnv) (cfg : Cfg) (top : Option Nat) (sel : Str) (items0 : List Item) (st : St)
    (ci : Nat) (cd : Decl) (hl : lastDecl (seenItems top items0 st) "color".toList = some (ci, cd)) :
    match verdict (evalOf env cfg st (seenItems top items0 st) cd) with
    | .accessible => processRule env cfg top sel items0 st =
        .ok (seenItems top items0 st, { st with accessible := st.accessible + 1 })
    | .failed inv => processRule env cfg top sel items0 st = .ok (seenItems top items0 st,
        { st with failed := st.failed + 1,
                  failedDetails := { selector := sel, text := textOf env st cd,
                                     bg := bgOf env cfg st (seenItems top items0 st), invalid := inv } :: st.failedDetails })
    | .tuned => (resSt (processRule env cfg top sel items0 st)).tuned = st.tuned + 1 := by
  rw [processRule_eq_verdict, hl]
  dsimp only
  cases verdict (evalOf env cfg st (seenItems top items0 st) cd) with
  | accessible => rfl
  | failed inv => rfl
  | tuned => exact tunedStep_tuned env cfg top sel items0 st ci cd

/-- a rule that is not reported as adjusted is returned exactly as the tool saw it, and neither the custom-property table nor
    any shared block changes -/
theorem attention_unchanged (env : CliEnv) (cfg : Cfg) (top : Option Nat) (sel : Str) (items0 : List Item) (st : St)
    (items' : List Item) (st' : St) (hok : processRule env cfg top sel items0 st = .ok (items', st'))
    (hnt : st'.tuned = st.tuned) :
    items' = seenItems top items0 st ∧ st'.vars = st.vars ∧ st'.rootDecls = st.rootDecls := by
  rcases processRule_ok hok with ⟨h1, _, h2, h3⟩ | ⟨ci, cd, _, _, ht⟩
  · exact ⟨h1, h2, h3⟩
  · have := (tunedStep_ok_counts ht).1
    omega

theorem attention_unchanged_nested (env : CliEnv) (cfg : Cfg) (sel : Str) (items0 : List Item) (st : St)
    (items' : List Item) (st' : St) (hok : processRule env cfg none sel items0 st = .ok (items', st'))
    (hnt : st'.tuned = st.tuned) : items' = items0 :=
  (attention_unchanged env cfg none sel items0 st items' st' hok hnt).1

/-- over a nested rule list: on success the counters grew, in total, by exactly the number of rules with a text colour -/
theorem partition_nodes (env : CliEnv) (cfg : Cfg) (st : St) (nodes nodes' : List Node) (st' : St)
    (h : processNodes env cfg st nodes = .ok (nodes', st')) :
    st'.accessible + st'.tuned + st'.failed = st.accessible + st.tuned + st.failed + countNodes nodes ∧
    st.accessible ≤ st'.accessible ∧ st.tuned ≤ st'.tuned ∧ st.failed ≤ st'.failed ∧
    st'.failedDetails.length + st.failed = st.failedDetails.length + st'.failed ∧
    st'.fixedDetails.length + st.tuned = st.fixedDetails.length + st'.tuned := by
  have hs := processNodes_spec env cfg st nodes
  rw [h] at hs
  obtain ⟨_, g, _⟩ := hs
  rw [colourSelsNodes_length] at g
  exact ⟨g.total, g.acc, g.tuned, g.failed, g.failedLen, g.fixedLen⟩

/-- when serialisation fails part-way the total has grown by at most that number -/
theorem partition_nodes_error (env : CliEnv) (cfg : Cfg) (st : St) (nodes : List Node) (st' : St)
    (h : processNodes env cfg st nodes = .error st') :
    st'.accessible + st'.tuned + st'.failed ≤ st.accessible + st.tuned + st.failed + countNodes nodes ∧
    st.accessible ≤ st'.accessible ∧ st.tuned ≤ st'.tuned ∧ st.failed ≤ st'.failed ∧
    st'.failedDetails.length + st.failed = st.failedDetails.length + st'.failed ∧
    st'.fixedDetails.length + st.tuned = st.fixedDetails.length + st'.tuned := by
  have hs := processNodes_spec env cfg st nodes
  rw [h] at hs
  obtain ⟨⟨k, hk, g⟩, _⟩ := hs
  rw [colourSelsNodes_length] at hk
  have := g.total
  simp only [total] at this
  exact ⟨by omega, g.acc, g.tuned, g.failed, g.failedLen, g.fixedLen⟩

/-- the top-level loop, started from the pre-pass tables: a top-level `:root` / `html` rule is judged on its shared block, which
    has a text colour iff the rule has -/
theorem partition_top (env : CliEnv) (cfg : Cfg) (st0 : St) (nodes nodes' : List Node) (st' : St)
    (h : processTop env cfg nodes 0 (fileSt env nodes st0) = .ok (nodes', st')) :
    st'.accessible + st'.tuned + st'.failed = st0.accessible + st0.tuned + st0.failed + countNodes nodes := by
  have hs := processTop_spec env cfg nodes 0 (fileSt env nodes st0) (prePass_rootInv env nodes)
  rw [h] at hs
  exact colourSelsNodes_length nodes ▸ hs.2.1.total

/-- when a file is written, every rule with a text colour has been counted in exactly one
    of the three categories: the counters grew in total by `countNodes nodes`, none decreased -/
theorem partition (env : CliEnv) (cfg : Cfg) (nodes : List Node) (st0 : St) (out : List Node) (st' : St)
    (h : processFile env cfg nodes st0 = (.written out, st')) :
    st'.accessible + st'.tuned + st'.failed = st0.accessible + st0.tuned + st0.failed + countNodes nodes ∧
    st0.accessible ≤ st'.accessible ∧ st0.tuned ≤ st'.tuned ∧ st0.failed ≤ st'.failed := by
  have hs := processFile_spec env cfg nodes st0
  rw [h] at hs
  exact ⟨hs.2.total, hs.2.acc, hs.2.tuned, hs.2.failed⟩

/-- a skipped file leaves partial counts: at most `countNodes nodes` more -/
theorem partition_skipped (env : CliEnv) (cfg : Cfg) (nodes : List Node) (st0 : St) (st' : St)
    (h : processFile env cfg nodes st0 = (.error, st')) :
    st'.accessible + st'.tuned + st'.failed ≤ st0.accessible + st0.tuned + st0.failed + countNodes nodes ∧
    st0.accessible ≤ st'.accessible ∧ st0.tuned ≤ st'.tuned ∧ st0.failed ≤ st'.failed := by
  have hs := processFile_spec env cfg nodes st0
  rw [h] at hs
  obtain ⟨k, hk, g⟩ := hs
  have := g.total
  simp only [total] at this
  exact ⟨by omega, g.acc, g.tuned, g.failed⟩

/-- lists and counters agree: whatever the outcome of a file, `failedDetails` grew (at the front) by
    exactly as many entries as `failed`, and `fixedDetails` by exactly as many as `tuned` -/
theorem details_agree (env : CliEnv) (cfg : Cfg) (nodes : List Node) (st0 : St) :
    let st' := (processFile env cfg nodes st0).2
    st'.failedDetails.length + st0.failed = st0.failedDetails.length + st'.failed ∧
    st'.fixedDetails.length + st0.tuned = st0.fixedDetails.length + st'.tuned ∧
    st0.failedDetails <:+ st'.failedDetails ∧ st0.fixedDetails <:+ st'.fixedDetails := by
  have hs := processFile_spec env cfg nodes st0
  cases hp : processFile env cfg nodes st0 with
  | mk o st' =>
    rw [hp] at hs
    cases o with
    | written out => exact ⟨hs.2.failedLen, hs.2.fixedLen, hs.2.failedSuffix, hs.2.fixedSuffix⟩
    | error => obtain ⟨k, _, g⟩ := hs; exact ⟨g.failedLen, g.fixedLen, g.failedSuffix, g.fixedSuffix⟩

/-- rules needing attention (and adjusted rules) are listed by selector: the entries a file adds to the
    two detail lists name, oldest first, a subsequence of the selectors of its rules with a text colour -/
theorem listed_by_selector (env : CliEnv) (cfg : Cfg) (nodes : List Node) (st0 : St) :
    let st' := (processFile env cfg nodes st0).2
    (∃ l : List Failed, st'.failedDetails = l ++ st0.failedDetails ∧
        (l.reverse.map (·.selector)).Sublist (colourSelsNodes nodes)) ∧
    (∃ l : List Fixed, st'.fixedDetails = l ++ st0.fixedDetails ∧
        (l.reverse.map (·.selector)).Sublist (colourSelsNodes nodes)) := by
  have h := (processTop_spec env cfg nodes 0 (fileSt env nodes st0) (prePass_rootInv env nodes)).listed
  rw [← processFile_snd] at h
  -- `fileSt` replaces only the table and the blocks: its detail lists are `st0`'s
  exact ⟨h.failed, h.fixed⟩

theorem colourSels_length (nodes : List Node) : (colourSelsNodes nodes).length = countNodes nodes :=
  colourSelsNodes_length nodes

/-- over a whole run: the lists have as many entries as their counters say, and the counters add up to at most the number of
    rules with a text colour in the readable files — exactly that number when no file was reported as failing -/
theorem run_partition (env : CliEnv) (cfg : Cfg) (files : List (Str × FileIn)) :
    let r := run env cfg files
    r.st.failedDetails.length = r.st.failed ∧ r.st.fixedDetails.length = r.st.tuned ∧
    r.st.accessible + r.st.tuned + r.st.failed ≤ (files.map fileCount).sum ∧
    (r.errors = [] → r.st.accessible + r.st.tuned + r.st.failed = (files.map fileCount).sum) := by
  obtain ⟨k, hk, g, he⟩ := runFiles_grew env cfg files { writes := [], errors := [], st := {} }
  have ht := g.total
  have h1 := g.failedLen
  have h2 := g.fixedLen
  simp [total] at ht
  simp only [run]
  refine ⟨by simpa using h1, by simpa using h2, by omega, ?_⟩
  intro hnil
  have : files.filterMap (fileError env cfg) = [] := by
    have := congrArg RunResult.errors (runFiles_eq env cfg files { writes := [], errors := [], st := {} })
    rw [hnil] at this
    simpa using this.symm
  have := he this
  omega

/-- when a rule is reported as adjusted, a `Fixed` record with its selector and `pairEval`'s tuned colour is pushed, and *either*
    (direct rewrite) exactly the last `color` declaration of the seen list is set to that colour, the table is untouched and a shared
    block is updated, *or* (the value is `var(--x)` for a known `--x`) the table entry of `--x` and its defining declaration hold it -/
theorem adjusted_written (env : CliEnv) (cfg : Cfg) (top : Option Nat) (sel : Str) (items0 : List Item) (st : St)
    (items' : List Item) (st' : St) (hok : processRule env cfg top sel items0 st = .ok (items', st'))
    (ht : st'.tuned ≠ st.tuned) :
    ∃ (ci : Nat) (cd : Decl) (f : Fixed),
      lastDecl (seenItems top items0 st) "color".toList = some (ci, cd) ∧
      st'.fixedDetails = f :: st.fixedDetails ∧ f.selector = sel ∧
      f.tunedText = (cfg.pairEval f.originalText f.bg).tuned ∧
      ((viaVarOf env st (strip env cd.value) = none ∧
          items' = setDeclValue (seenItems top items0 st) ci f.tunedText ∧
          lastDecl items' "color".toList = some (ci, { cd with value := f.tunedText ++ cd.comments }) ∧
          st'.vars = st.vars ∧
          (∀ i, top = some i → getRoot st i ≠ none → getRoot st' i = some items') ∧
          (top = none → st'.rootDecls = st.rootDecls)) ∨
       (∃ name d, viaVarOf env st (strip env cd.value) = some (name, d) ∧
          lookupVar st'.vars name = some { d with value := f.tunedText } ∧
          (∀ its, getRoot st d.rule = some its → getRoot st' d.rule = some (setDeclValue its d.item f.tunedText)) ∧
          items' = seenItems top items0 st')) := by
  rcases processRule_ok hok with ⟨_, h, _⟩ | ⟨ci, cd, hl, hv, hok⟩
  · exact (ht h).elim
  · have hf := (tunedStep_ok_counts hok).2
    refine ⟨ci, cd, fixedOf env cfg st sel (seenItems top items0 st) cd, hl, hf, rfl, rfl, ?_⟩
    cases hvar : viaVarOf env st (strip env cd.value) with
    | none =>
      obtain ⟨hitems, hlast, hvars, hshared, hroots⟩ :=
        tunedStep_ok_direct env cfg top sel items0 st ci cd hl hvar items' st' hok
      exact .inl ⟨rfl, hitems, hlast, hvars, hshared, fun h0 => hroots (by subst h0; rfl)⟩
    | some nd =>
      obtain ⟨name, d⟩ := nd
      exact .inr ⟨name, d, rfl, tunedStep_ok_var env cfg top sel items0 st ci cd name d hvar items' st' hok⟩

/-- on the adjusted branch with a direct rewrite the returned list's last
    `color` declaration carries the reported colour, and the pushed record carries selector and colour -/
theorem written_value_direct (env : CliEnv) (cfg : Cfg) (top : Option Nat) (sel : Str) (items0 : List Item) (st : St)
    (ci : Nat) (cd : Decl) (hl : lastDecl (seenItems top items0 st) "color".toList = some (ci, cd))
    (hv : verdict (evalOf env cfg st (seenItems top items0 st) cd) = .tuned)
    (hdirect : viaVarOf env st (strip env cd.value) = none)
    (items' : List Item) (st' : St) (hok : processRule env cfg top sel items0 st = .ok (items', st')) :
    let v := (evalOf env cfg st (seenItems top items0 st) cd).tuned
    lastDecl items' "color".toList = some (ci, { cd with value := v ++ cd.comments }) ∧
    items' = setDeclValue (seenItems top items0 st) ci v ∧
    ∃ f : Fixed, st'.fixedDetails = f :: st.fixedDetails ∧ f.tunedText = v ∧ f.selector = sel := by
  rw [processRule_eq_verdict, hl] at hok
  dsimp only at hok
  rw [hv] at hok
  have hf := (tunedStep_ok_counts hok).2
  obtain ⟨hitems, hlast, _⟩ := tunedStep_ok_direct env cfg top sel items0 st ci cd hl hdirect items' st' hok
  exact ⟨hlast, hitems, _, hf, rfl, rfl⟩

/-- what a visited rule outside the pre-parsed blocks looks like afterwards: unchanged, or — reported as adjusted with a `Fixed`
    record of its selector — with exactly its last `color` declaration set to the reported colour -/
def DirectOutcome (env : CliEnv) (cfg : Cfg) (sel : Str) (a b : List Item) : Prop :=
  b = a ∨ ∃ (st st' : St) (ci : Nat) (cd : Decl) (f : Fixed),
    processRule env cfg none sel a st = .ok (b, st') ∧ st'.fixedDetails = f :: st.fixedDetails ∧ f.selector = sel ∧
    lastDecl a "color".toList = some (ci, cd) ∧ b = setDeclValue a ci f.tunedText ∧
    lastDecl b "color".toList = some (ci, { cd with value := f.tunedText ++ cd.comments })

/-- in a written file, in every node other than a top-level `:root` / `html` rule each visited rule is `DirectOutcome` of its
    input: nothing processed later touches it -/
theorem written_in_file_direct (env : CliEnv) (cfg : Cfg) (nodes : List Node) (st0 : St) (out : List Node) (st' : St)
    (h : processFile env cfg nodes st0 = (.written out, st')) (i : Nat) (n : Node) (hn : nodes[i]? = some n)
    (hnr : ∀ sel items, n = .rule sel items → isRootSel sel = false) :
    ∃ n', out[i]? = some n' ∧ relNode (DirectOutcome env cfg) n n' := by
  obtain ⟨n', hn', hrel⟩ := processFile_stepped env cfg nodes st0 out st' h i n hn hnr
  refine ⟨n', hn', relNode_mono ?_ n n' hrel⟩
  intro sel a b ⟨st, st1, hstep⟩
  by_cases ht : st1.tuned = st.tuned
  · exact .inl (attention_unchanged env cfg none sel a st b st1 hstep ht).1
  · obtain ⟨ci, cd, f, h1, h2, h3, _, hcase⟩ := adjusted_written env cfg none sel a st b st1 hstep ht
    rcases hcase with ⟨_, h5, h6, _⟩ | ⟨name, d, _, _, _, h8⟩
    · exact .inr ⟨st, st1, ci, cd, f, hstep, h2, h3, h1, h5, h6⟩
    · exact .inl h8

/-- how `relNode` reads: rules are related by the given relation on their declaration lists (same selector),
    `@media` / `@supports` bodies node by node, all other nodes are equal -/
theorem relNode_def (P : Str → List Item → List Item → Prop) :
    (∀ s s' a b, relNode P (.rule s a) (.rule s' b) ↔ s = s' ∧ P s a b) ∧
    (∀ k p k' p' b b', relNode P (.at k p b) (.at k' p' b') ↔
      k = k' ∧ p = p' ∧ ((isNested k = true ∧ relNodes P b b') ∨ (isNested k = false ∧ b = b'))) ∧
    (∀ t ok t' ok', relNode P (.other t ok) (.other t' ok') ↔ t = t' ∧ ok = ok') ∧
    relNodes P [] [] ∧
    (∀ a b as bs, relNodes P (a :: as) (b :: bs) ↔ relNode P a b ∧ relNodes P as bs) :=
  ⟨fun _ _ _ _ => relNode_rule, fun _ _ _ _ _ _ => relNode_at, fun _ _ _ _ => relNode_other, relNodes_nil,
    fun _ _ _ _ => relNodes_cons⟩

/-- when a rule is adjusted through `var(--x)`, right after that rule the table maps `--x` to the reported colour and the defining
    declaration in the shared `:root` / `html` block holds it (the post-pass re-serialises the rule from that block). At file level
    the same is false (K1): a later rule adjusted through `--x` overwrites the value. With a hypothesis:
    `reported_is_written_var_of_no_readjust`, `C08var.lean`. -/
theorem reported_is_written_var_partial (env : CliEnv) (cfg : Cfg) (top : Option Nat) (sel : Str) (items0 : List Item)
    (st : St) (ci : Nat) (cd : Decl) (hl : lastDecl (seenItems top items0 st) "color".toList = some (ci, cd))
    (hv : verdict (evalOf env cfg st (seenItems top items0 st) cd) = .tuned)
    (name : Str) (d : VarDef) (hvar : viaVarOf env st (strip env cd.value) = some (name, d)) :
    let v := (evalOf env cfg st (seenItems top items0 st) cd).tuned
    ∃ items' st', processRule env cfg top sel items0 st = .ok (items', st') ∧
      (∃ f : Fixed, st'.fixedDetails = f :: st.fixedDetails ∧ f.tunedText = v ∧ f.selector = sel) ∧
      lookupVar st'.vars name = some { d with value := v } ∧
      (∀ its, getRoot st d.rule = some its →
        getRoot st' d.rule = some (setDeclValue its d.item v) ∧
        (setDeclValue its d.item v)[d.item]? = (its[d.item]?).map (setVal v)) := by
  rw [processRule_eq_verdict, hl]
  dsimp only
  rw [hv]
  cases hok : tunedStep env cfg top sel items0 st ci cd with
  | error e => unfold tunedStep at hok; rw [hvar] at hok; cases hok
  | ok q =>
    obtain ⟨items', st'⟩ := q
    refine ⟨items', st', rfl, ⟨_, (tunedStep_ok_counts hok).2, rfl, rfl⟩, ?_⟩
    obtain ⟨htable, hblock, _⟩ := tunedStep_ok_var env cfg top sel items0 st ci cd name d hvar items' st' hok
    refine ⟨htable, fun its hg => ⟨hblock its hg, ?_⟩⟩
    rw [setDeclValue_getElem?]
    cases its[d.item]? <;> simp

section Examples
open Cm.Cli.Demo

/-- `p { color: #777; } /* c */ @media print { a { margin: 0 } }` with an oracle that tunes everything
    to `#111`: written, one rule with a text colour, counted once (adjusted), `color` now `#111` -/
example : processFile asciiEnv cfgTune sheet {} =
    (.written sheetOut, (processFile asciiEnv cfgTune sheet {}).2) ∧
    countNodes sheet = 1 ∧ (processFile asciiEnv cfgTune sheet {}).2.tuned = 1 ∧
    (processFile asciiEnv cfgTune sheet {}).2.accessible = 0 ∧ (processFile asciiEnv cfgTune sheet {}).2.failed = 0 ∧
    (processFile asciiEnv cfgTune sheet {}).2.fixedDetails.map (·.selector) = ["p".toList] :=
  ⟨rfl, by decide +kernel⟩

/-- with an oracle that cannot tune anything both colour rules need attention and the file is written unchanged -/
example : (processFile asciiEnv cfgFail sheetVar {}).1 = .written sheetVar ∧
    (processFile asciiEnv cfgFail sheetVar {}).2.failed = 2 ∧
    (processFile asciiEnv cfgFail sheetVar {}).2.failedDetails.map (·.selector) = ["b".toList, "p".toList] :=
  ⟨rfl, by decide +kernel⟩

/-- K1 in action: `:root { --c: #777 } p { color: var(--c) } b { color: var(--c) }` — two rules are
    reported as adjusted, one declaration (`--c`) is written -/
example : (processFile asciiEnv cfgTune sheetVar {}).2.tuned = 2 ∧ countNodes sheetVar = 2 ∧
    (processFile asciiEnv cfgTune sheetVar {}).2.fixedDetails.map (·.selector) = ["b".toList, "p".toList] :=
  by decide +kernel

end Examples

end CmProps.C08
