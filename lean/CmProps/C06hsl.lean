import CmModel.Hsl
import CmModel.Parser
import CmGen.HexSrc
/-!
# C06 — the tuple/list entry of `rgb_to_hsl`, as translated from the source on this run, is "validate, then the model's arithmetic"

What `format_color(rgb, "hsl")` executes: `rgb_to_hsl(rgb_color)` with an RGB triple. `harness/translate/hexsrc.py` translates
the function for a parameter that is a tuple/list of three ints: the `isinstance(rgb_color, str)` branch is dead and the
`isinstance(rgb_color, (tuple, list))` branch live by typing (rules T1/T2 of translate/convstr.py; widening or narrowing
either class list is outside the subset), `len(rgb_color) < 3` is `3 < 3`, `r, g, b = rgb_color[:3]` (rule H1), the loop
`for c in (r, g, b): if not (0 <= c <= 255): raise ValueError` is unrolled (rule H2), and the statements from `r /= 255`
to the f-string are the leaf `rgbToHslText (r, g, b)` (rule H3): that fragment is translated by translate/leaves.py
(`CmGen.Leaves.rgb_to_hsl_core`) and tied to the model by `C06tie.source_rgb_to_hsl_core` / `source_rgb_to_hsl_text`;
the translator checks that it reads nothing but `r`, `g`, `b`.

The image returns the three numbers the f-string `hsl({h}, {s*100}%, {l*100}%)` prints (how a float is printed is not
modelled: `OutVal.hsl` carries the three numbers). Components that are floats or bools, and sequences longer than three,
are outside the image type (the model's `formatColor` only ever passes a parsed 8-bit triple).
-/
namespace CmProps.C06
open Cm Cm.Parse
variable {α : Type} [Num α]

/-- `rgb_to_hsl((r, g, b))` raises `ValueError` unless every channel is in 0..255, and otherwise returns what the model's
    `rgbToHslText` computes -/
theorem source_rgb_to_hsl_tuple (c : RGB) :
    CmGen.HexSrc.rgb_to_hsl_tuple (α := α) c = if validRgb c then .ok (rgbToHslText c) else vErr := by
  obtain ⟨r, g, b⟩ := c
  unfold CmGen.HexSrc.rgb_to_hsl_tuple validRgb
  simp only [Nat.lt_irrefl, decide_false, Bool.false_eq_true, if_false]
  -- one test per channel, in order
  cases (decide (0 ≤ r) && decide (r ≤ 255)) <;> cases (decide (0 ≤ g) && decide (g ≤ 255)) <;>
    cases (decide (0 ≤ b) && decide (b ≤ 255)) <;> rfl

theorem source_rgb_to_hsl_tuple_valid (c : RGB) (h : validRgb c = true) :
    CmGen.HexSrc.rgb_to_hsl_tuple (α := α) c = .ok (rgbToHslText c) := by
  rw [source_rgb_to_hsl_tuple, h]; rfl

end CmProps.C06
