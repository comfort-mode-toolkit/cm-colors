import CmModel.Parser
import CmGen.StrHelpers
/-!
# C07 — the string-to-number helpers of the parser, as translated from the source on this run, are the model's

`_parse_number_token` (every component and alpha of `rgb()`/`rgba()` and of sequences goes through it),
`_parse_hsl_percentage_or_decimal` and `_parse_hue` (every `hsl()`/`hsla()` component): translated over the model's own
string primitives (`Str.strip`, `Str.endsWith`, `PyFloat.parse`) into the `Except PyErr` monad and proved equal to
`numberToken`, `pctOrDec`, `parseHue` for every carrier and every character-class oracle.
-/
namespace CmProps.C07
open Cm Cm.Parse
variable {α : Type} [Num α]

/-- `_parse_number_token`: the generated body is the model's, with `rangeToken` written out in place -/
theorem source_parse_number_token (E : PEnv) (tok : Str) (component : Bool) :
    CmGen.StrHelpers.parse_number_token (α := α) E tok component = numberToken E tok component := rfl

/-- `_parse_hsl_percentage_or_decimal` -/
theorem source_parse_hsl_percentage_or_decimal (E : PEnv) (v : Str) :
    CmGen.StrHelpers.parse_hsl_percentage_or_decimal (α := α) E v = pctOrDec E v := rfl

/-- `_parse_hue` -/
theorem source_parse_hue (E : PEnv) (v : Str) : CmGen.StrHelpers.parse_hue (α := α) E v = parseHue E v := rfl

end CmProps.C07
