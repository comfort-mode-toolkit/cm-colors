import CmModel.Parser
import CmGen.ParserSrc
import CmProofs.ParseTotal
import CmProofs.Logic
/-!
# C07 — the string branch of `parse_color_to_rgb`, as translated from the source on this run, is the model's `parseStr`

The body of the top-level `if isinstance(color, str):` statement of `parse_color_to_rgb` (named colours, hex with and
without `#`, `hsl()`/`hsla()`, `rgb()`/`rgba()` and the informal comma / blank separated forms) is translated statement
by statement (`harness/translate/parsersrc.py` → `CmGen.ParserSrc.parse_color_string`) and proved equal to
`Cm.Parse.parseStr`, for every carrier, every character-class oracle and every keyword table. So the order of the
dispatch tests, the prefixes, the two regular expressions, which of `s` / `s_lower` each test and each callee reads, the
token-count tests, the clamping and the handling of the background cannot change without this theorem failing to build.

**Background abstraction.** `Color._parse` calls `parse_color_to_rgb(value, background=…)` with `background` either
`None` or the already parsed `(r, g, b)` of the background colour; in the image `background : Option RGB`. The
translator turns `background is None` into `background.isNone`, `isinstance(background, (tuple, list))` into
`background.isSome`, `len(background)` into `3`, `tuple(background)` into `background`, and the recursive call
`parse_color_to_rgb(background)` into the model's `bgParsed background` (re-validation of the triple; white for `None`).
Backgrounds of any other Python type (a string, a list of floats, …) are not covered by this theorem.

The callees (`hex_to_rgb`, `hsl_to_rgb`, `hsla_to_rgb`, `rgba_to_rgb`, `is_valid_rgb`, `_extract_number_tokens`,
`_parse_number_token`) are the model's functions by name; `_parse_number_token` is tied in `C07tie`.
The handler `except ValueError` is translated as written (it catches `ValueError` and nothing else); the model maps every
error of the component block to `ValueError`, which is the same because `numberToken` raises nothing else
(`Cm.ParseTotal.numberToken_errors`). Subscripts `tokens[i]` and `CSS_NAMED_COLORS[s_lower]` are translated to total
look-ups only under a dominating length / membership test (checked by the translator).
-/
namespace CmProps.C07
open Cm Cm.Parse Cm.ParseTotal
variable {α : Type} [Num α]

/-- `if p or q: (x if q else y) else: z`, as the model's chain of tests -/
private theorem ite_or_nest {β : Type} (p q : Bool) (x y z : β) :
    (if (p || q) = true then (if q = true then x else y) else z) = if q = true then x else if p = true then y else z := by
  cases p <;> cases q <;> rfl

/-- `parse_color_to_rgb(color, background)` for a `str` colour and a background that is `None` or a parsed triple -/
theorem source_parse_color_string (E : PEnv) (color : Str) (background : Option RGB) :
    CmGen.ParserSrc.parse_color_string (α := α) E color background = parseStr (α := α) E color background := by
  unfold CmGen.ParserSrc.parse_color_string parseStr
  dsimp only
  generalize Str.strip E.cls color = s
  generalize Str.lower E.cls s = sl
  -- the dispatch is followed test by test; a test with a decided outcome is passed by `if_pos` / `if_neg`
  cases lookupNamed E sl with
  | some hex => exact if_pos rfl
  | none =>
    -- no keyword (`s_lower in CSS_NAMED_COLORS` is false); then hex, with or without `#`
    refine (if_neg Bool.false_ne_true).trans (ite_congr rfl (fun _ => ?_) fun _ => ?_)
    · exact (ite_bnot _ _ _).trans (apply_ite (hexToRgb E) _ _ _).symm
    -- hsla() and hsl(): the code asks for either prefix first, then for the longer one
    refine (ite_or_nest _ _ _ _ _).trans (ite_congr rfl (fun _ => ?_) fun _ => ite_congr rfl (fun _ => rfl) fun _ => ?_)
    · -- `hsla(`: the background is handed on as it is
      cases background with
      | none => exact if_neg Bool.false_ne_true
      | some _ => exact (if_pos rfl).trans (if_pos rfl)
    -- `hsl(` is the same call on both sides; what is left is `rgb(`, `rgba(` and the informal forms, by the number
    -- of tokens `_NUM_RE.findall` returns
    refine ite_congr rfl (fun _ => ?_) fun _ => rfl
    generalize NumRe.findAll E.cls sl = tokens
    rcases tokens with _ | ⟨t0, _ | ⟨t1, _ | ⟨t2, _ | ⟨t3, tl⟩⟩⟩⟩
    · rfl
    · rfl
    · rfl
    · -- three tokens; the component block raises `ValueError` only, so the handler changes nothing
      -- `not tokens` and `len(tokens) >= 4` are false, `len(tokens) == 3` is true
      refine (if_neg Bool.false_ne_true).trans ((if_neg Bool.false_ne_true).trans ((if_pos rfl).trans ?_))
      simp only [List.getD_cons_zero, List.getD_cons_succ]
      generalize hM : (numberToken (α := α) E t0 true >>= _) = m
      have hm : ErrIn OnlyV m := hM ▸ ErrIn.bind numberToken_errors fun _ => ErrIn.bind numberToken_errors fun _ =>
        ErrIn.bind numberToken_errors fun _ => ErrIn.ok _
      cases m with
      | ok x => exact ite_bnot _ _ _
      | error e => cases hm e rfl; rfl
    · -- four or more tokens: `not tokens` is false, `len(tokens) >= 4` is true; the same argument with the alpha token
      refine (if_neg Bool.false_ne_true).trans ((if_pos rfl).trans ?_)
      simp only [List.getD_cons_zero, List.getD_cons_succ]
      generalize hM : (numberToken (α := α) E t0 true >>= _) = m
      have hm : ErrIn OnlyV m := hM ▸ ErrIn.bind numberToken_errors fun _ => ErrIn.bind numberToken_errors fun _ =>
        ErrIn.bind numberToken_errors fun _ => ErrIn.bind numberToken_errors fun _ => ErrIn.ok _
      cases m with
      | ok x => cases background <;> rfl
      | error e => cases hm e rfl; rfl

end CmProps.C07
