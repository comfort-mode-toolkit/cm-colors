import CmProofs.Strategy
/-!
# C01 — the success flag is exactly the WCAG verdict on the returned colour

No order or arithmetic law is used: the theorems hold for every carrier, leaf oracle and descent function, hence for the `Float`
instance that the correspondence harness executes against the Python code.
-/
namespace CmProps.C01
open Cm
variable {α : Type} [Num α]

theorem minContrast_table :
    (thresholds (α := α) false false = ((4.5 : α), (7.0 : α))) ∧
    (thresholds (α := α) true  false = ((3.0 : α), (4.5 : α))) ∧
    (thresholds (α := α) false true  = ((7.0 : α), (7.0 : α))) ∧
    (thresholds (α := α) true  true  = ((4.5 : α), (4.5 : α))) := ⟨rfl, rfl, rfl, rfl⟩

theorem strict_flag (O : Leaf α) (d : Descend α) (t bg : RGB) (target minC : α) :
    (strategyStrict O d t bg target minC).2 =
      Num.ge (O.contrast (strategyStrict O d t bg target minC).1 bg) minC := rfl

/-- Running out of iterations returns `false`, which is the verdict only because the colour then held has just failed the test
    (`hcur`, needed for a loop that starts at `0` only). -/
theorem recursiveLoop_flag (O : Leaf α) (d : Descend α) (bg : RGB) (target minC : α) (n : Nat) (cur : RGB)
    (hcur : n = 0 → Num.ge (O.contrast cur bg) minC = false) :
    (recursiveLoop O d bg target minC n cur).2 =
      Num.ge (O.contrast (recursiveLoop O d bg target minC n cur).1 bg) minC := by
  induction n generalizing cur with
  | zero => exact (hcur rfl).symm
  | succ n ih =>
    rw [recursiveLoop_succ]
    by_cases hc : Num.ge (O.contrast cur bg) minC = true
    · rw [if_pos hc]; exact hc.symm
    · rw [if_neg hc]
      by_cases hn : Num.ge (O.contrast (stepOf O d bg target minC cur) bg) minC = true
      · rw [if_pos hn]; exact hn.symm
      · rw [if_neg hn]
        by_cases hfix : stepOf O d bg target minC cur = cur
        · rw [if_pos hfix]; exact (Bool.eq_false_iff.2 hc).symm
        · rw [if_neg hfix]; exact ih _ fun _ => Bool.eq_false_iff.2 hn

theorem recursive_flag (O : Leaf α) (d : Descend α) (t bg : RGB) (target minC : α) :
    (strategyRecursive O d t bg target minC).2 =
      Num.ge (O.contrast (strategyRecursive O d t bg target minC).1 bg) minC :=
  recursiveLoop_flag O d bg target minC 10 t (by simp)

theorem relaxed_flag (O : Leaf α) (d : Descend α) (t bg : RGB) (target minC : α) :
    (strategyRelaxed O d t bg target minC).2 =
      Num.ge (O.contrast (strategyRelaxed O d t bg target minC).1 bg) minC := by
  rcases strategyRelaxed_cases O d t bg target minC with ⟨h, _⟩ | ⟨h, ha⟩ | ⟨h, hb⟩ <;> rw [h]
  · exact recursive_flag O d t bg target minC
  · exact ha.symm.trans (recursiveLoop_flag O d bg target minC 15 t (by simp))
  · exact hb.symm

/-- `check_and_fix_contrast`: for every mode (any integer), text size and very-readable setting,
    the flag is the verdict of the returned colour against the table's minimum -/
theorem checkAndFix_flag (O : Leaf α) (d : Descend α) (t bg : RGB) (large premium : Bool) (mode : Int) :
    (checkAndFix O d t bg large mode premium).2 =
      Num.ge (O.contrast (checkAndFix O d t bg large mode premium).1 bg)
        (thresholds (α := α) large premium).1 := by
  refine checkAndFix_rule O d t bg large mode premium (fun r => r.2 = Num.ge (O.contrast r.1 bg) _)
    (fun h => h.symm) fun _ => ?_
  rintro S (rfl | rfl | rfl)
  · rfl
  · exact relaxed_flag O d t bg _ _
  · exact recursive_flag O d t bg _ _

/-- never "fixed while failing", never "failed while passing" — the two directions spelled out -/
theorem checkAndFix_flag_iff (O : Leaf α) (d : Descend α) (t bg : RGB) (large premium : Bool) (mode : Int) :
    (checkAndFix O d t bg large mode premium).2 = true ↔
      Num.le (thresholds (α := α) large premium).1
        (O.contrast (checkAndFix O d t bg large mode premium).1 bg) = true := by
  rw [checkAndFix_flag]; rfl

end CmProps.C01
