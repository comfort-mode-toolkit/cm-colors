import CmModel.Parser
import CmGen.ConvStr
/-!
# C06 — the two output formatters, as translated from the source on this run, are the model's

`harness/translate/convstr.py` translates `conversions.rgbint_to_string` (validation by `is_valid_rgb`, then the f-string
`f"rgb({rgb[0]}, {rgb[1]}, {rgb[2]})"`) and the tuple path of `conversions.rgb_to_hex` (the `isinstance` dispatch decided
by typing: the parameter is a *tuple* of three ints; the range validation; `"#{:02x}{:02x}{:02x}".format(r, g, b)`),
rule F of the translator for the two kinds of formatting. The model's `fmtRgbFn` / `fmtHex` are the texts for a valid
colour; the images also carry the validation, so the theorems say: valid ↦ `.ok` of the model's text, otherwise
`ValueError`. (`hex_to_rgb`: `translate/hexsrc.py`, tied in `C07hex.lean`.)
-/
namespace CmProps.C06
open Cm Cm.Parse

/-- `rgbint_to_string(rgb)` -/
theorem source_rgbint_to_string (c : RGB) :
    CmGen.ConvStr.rgbint_to_string c = if validRgb c then .ok (fmtRgbFn c) else vErr := by
  unfold CmGen.ConvStr.rgbint_to_string fmtRgbFn
  cases validRgb c <;> rfl

theorem source_rgbint_to_string_valid (c : RGB) (h : validRgb c = true) :
    CmGen.ConvStr.rgbint_to_string c = .ok (fmtRgbFn c) := by
  rw [source_rgbint_to_string, h]; rfl

/-- `rgb_to_hex((r, g, b))` for a tuple argument -/
theorem source_rgb_to_hex (c : RGB) :
    CmGen.ConvStr.rgb_to_hex_tuple c = if validRgb c then .ok (fmtHex c) else vErr := by
  obtain ⟨r, g, b⟩ := c
  unfold CmGen.ConvStr.rgb_to_hex_tuple
  simp only [Bool.true_and, decide_true, if_true]
  -- the source's one combined range test is `validRgb`
  show (if !validRgb (r, g, b) then _ else _) = _
  cases validRgb (r, g, b) <;> rfl

theorem source_rgb_to_hex_valid (c : RGB) (h : validRgb c = true) :
    CmGen.ConvStr.rgb_to_hex_tuple c = .ok (fmtHex c) := by
  rw [source_rgb_to_hex, h]; rfl

end CmProps.C06
