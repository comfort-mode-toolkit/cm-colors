import CmProofs.ParseTotal
/-!
# C14 — invalid colour input is reported, never raised

The error class of `float(str)` in plain form: the one lemma of the family that needs no more than `PyFloat.parse`
(DESIGN names it first); the totality theorems are in `C14total.lean`.
-/
namespace CmProps.C14
open Cm Cm.Parse

variable {α : Type} [Num α]

/-- `float(str)` fails with `ValueError` only -/
theorem floatParse_errors (cls : CharCls) (s : Str) (e : PyErr)
    (h : PyFloat.parse (α := α) cls s = .error e) : e = .valueError :=
  Cm.ParseTotal.floatParse_errors cls s e h

end CmProps.C14
