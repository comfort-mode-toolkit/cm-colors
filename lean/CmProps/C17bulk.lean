import CmModel.ApiVocab
import CmGen.Api
import CmProofs.SourceApi
import CmProps.C12api
/-!
# C17 — the effects of `make_readable_bulk`, as translated from the source on this run, are the model's `bulkEffects`

Rests on the loop theorem of `C12api.lean`: the number of report rows is a property of the whole loop
(`C12.source_make_readable_bulk_full`).
Same conventions as `C17api.lean`: `print` -> `Effect.stdout`, `to_html_bulk(..., output_path=LIT)` -> `Effect.write LIT`,
in program order; the report list is modelled by its length.
-/
namespace CmProps.C17
open Cm Cm.Parse Cm.SourceApi
variable {α : Type} [NumT α]

/-- `nReported` of the model's `bulkEffects` is the number of valid entries -/
theorem source_bulk_effects (E : PEnv) (O : Leaf α) (d : Descend α) (cond : Nat → Bool) (mode : Int)
    (very save : Bool) (items : List (BulkItem α)) :
    Prod.snd <$> CmGen.Api.make_readable_bulk E O d cond (items.map Api.rawItem) mode very save =
      .ok (bulkEffects save (items.filter fun it => (ColorPair.new E it.text it.bg it.large).isValid).length) := by
  rw [C12.source_make_readable_bulk_full]; rfl

end CmProps.C17
