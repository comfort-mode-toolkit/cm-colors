import CmGen.Defaults
/-!
# C08 — the command-line options and their defaults (generated from the `click` decorators of `main`)

The property text of C08 says "… against the rule's background (its own background-color, otherwise --default-bg, white if not given) … 4.5, or 7.0 with
--premium … --mode {0,1,2}". Pinned here: the option names, that `--default-bg` defaults to `"white"`, `--mode` to `1` (an `int`), and that
`--premium` is a flag that is off unless given.
-/
namespace CmProps.C08

/-- one tuple per parameter: (kind, name, default, is_flag, type) -/
theorem source_cli_options : CmGen.Defaults.cli_options =
    [("argument", "path", "\".\"", "False", "click.Path(exists=True)"),
     ("option", "--default-bg", "\"white\"", "False", "<none>"),
     ("option", "--mode", "1", "False", "int"),
     ("option", "--premium", "False", "True", "<none>")] := rfl

end CmProps.C08
