import CmProps.C18cli
import CmProps.C08cli
/-!
# C09 — the output is the input with only text-colour values changed, written beside the input

Statements over the CLI model (`Cm.Cli`, `Cm.Fs`), for every `env`, every `cfg` (every `pairEval`) and
every stylesheet. `sameShape` / `sameShapeNode(s)` (defined in `CmProofs.CliRule` / `CliTree`) are characterised
by the `*_iff` theorems below: same length and nesting, same selectors, at-keywords, preludes and opaque
nodes, declarations equal in `name`, `lowerName`, `important` and `comments` — only declaration *values* may differ.
`relNode` (in `only_adjusted_values_change`) is characterised by `C08.relNode_def`.
The model's only effect on the file system is the list `RunResult.writes`; input files occur in it
nowhere (`writes_beside_inputs`, `writes_not_inputs`).
-/
namespace CmProps.C09
open Cm Cm.Cli Cm.Fs

/-- items equal except for a declaration's `value`; the `comments` field (the comments the value contained) is equal too -/
theorem sameItem_iff (a b : Item) : sameItem a b ↔
    (∃ d e, a = .decl d ∧ b = .decl e ∧ d.name = e.name ∧ d.lowerName = e.lowerName ∧ d.important = e.important ∧
      d.comments = e.comments) ∨
    (∃ t ok, a = .other t ok ∧ b = .other t ok) := by
  cases a <;> cases b <;> simp [sameItem]

theorem sameShape_iff (a b : List Item) : sameShape a b ↔
    a.length = b.length ∧ ∀ (i : Nat) (x y : Item), a[i]? = some x → b[i]? = some y → sameItem x y := by
  induction a generalizing b with
  | nil => cases b <;> simp [sameShape]
  | cons x xs ih =>
    cases b with
    | nil => simp [sameShape]
    | cons y ys =>
      rw [sameShape, ih ys, List.length_cons, List.length_cons, Nat.add_right_cancel_iff]
      constructor
      · rintro ⟨h0, hl, h⟩
        refine ⟨hl, fun i x' y' hx hy => ?_⟩
        cases i with
        | zero => simp at hx hy; subst hx hy; exact h0
        | succ i => exact h i x' y' (by simpa using hx) (by simpa using hy)
      · rintro ⟨hl, h⟩
        exact ⟨h 0 x y rfl rfl, hl, fun i x' y' hx hy => h (i + 1) x' y' (by simpa using hx) (by simpa using hy)⟩

theorem sameShapeNode_iff :
    (∀ s s' a b, sameShapeNode (.rule s a) (.rule s' b) ↔ s = s' ∧ sameShape a b) ∧
    (∀ k p k' p' b b', sameShapeNode (.at k p b) (.at k' p' b') ↔ k = k' ∧ p = p' ∧ sameShapeNodes b b') ∧
    (∀ t ok t' ok', sameShapeNode (.other t ok) (.other t' ok') ↔ t = t' ∧ ok = ok') ∧
    (∀ s a k p b, ¬ sameShapeNode (.rule s a) (.at k p b)) ∧ (∀ s a t ok, ¬ sameShapeNode (.rule s a) (.other t ok)) ∧
    (∀ s a k p b, ¬ sameShapeNode (.at k p b) (.rule s a)) ∧ (∀ k p b t ok, ¬ sameShapeNode (.at k p b) (.other t ok)) ∧
    (∀ s a t ok, ¬ sameShapeNode (.other t ok) (.rule s a)) ∧ (∀ k p b t ok, ¬ sameShapeNode (.other t ok) (.at k p b)) ∧
    sameShapeNodes [] [] ∧
    (∀ a b as bs, sameShapeNodes (a :: as) (b :: bs) ↔ sameShapeNode a b ∧ sameShapeNodes as bs) ∧
    (∀ b bs, ¬ sameShapeNodes [] (b :: bs)) ∧ (∀ a as, ¬ sameShapeNodes (a :: as) []) := by
  refine ⟨fun _ _ _ _ => sameShapeNode_rule, fun _ _ _ _ _ _ => sameShapeNode_at, fun _ _ _ _ => sameShapeNode_other,
    ?_, ?_, ?_, ?_, ?_, ?_, sameShapeNodes_nil, fun _ _ _ _ => sameShapeNodes_cons, ?_, ?_⟩ <;>
  intros <;> simp only [sameShapeNode, sameShapeNodes, not_false_eq_true]

theorem sameShapeNodes_refl (ns : List Node) : sameShapeNodes ns ns := Cm.Cli.sameShapeNodes_refl ns

/-- rewriting one declaration's value changes nothing else in the list -/
theorem setDeclValue_sameShape (items : List Item) (i : Nat) (v : Str) : sameShape items (setDeclValue items i v) :=
  Cm.Cli.setDeclValue_sameShape items i v

/-- it touches at most position `i`, where at most the value changes -/
theorem setDeclValue_getElem? (items : List Item) (k : Nat) (v : Str) (i : Nat) :
    (setDeclValue items k v)[i]? = (items[i]?).map fun it => if i = k then setVal v it else it :=
  Cm.Cli.setDeclValue_getElem? items k v i

/-- the rewritten value is the new colour followed by the comments the old value
    contained, and the declaration's record of those comments is untouched (so a second rewrite keeps them too) -/
theorem comments_in_values_kept (d : Decl) (v : Str) :
    setVal v (.decl d) = .decl { d with value := v ++ d.comments } ∧
    ∀ w, setVal w (setVal v (.decl d)) = .decl { d with value := w ++ d.comments } := ⟨rfl, fun _ => rfl⟩

/-- `color: rgb(50%, 50%, 50%) /* brand */` rewritten to `#757575` reads `#757575/* brand */` -/
example :
    setDeclValue [.decl { name := "color".toList, lowerName := "color".toList, value := " rgb(50%, 50%, 50%) /* brand */".toList,
                          important := false, comments := "/* brand */".toList }] 0 "#757575".toList =
      [.decl { name := "color".toList, lowerName := "color".toList, value := "#757575/* brand */".toList,
               important := false, comments := "/* brand */".toList }] := by decide +kernel

theorem processRule_sameShape (env : CliEnv) (cfg : Cfg) (top : Option Nat) (sel : Str) (items0 : List Item) (st : St)
    (items' : List Item) (st' : St) (h : processRule env cfg top sel items0 st = .ok (items', st')) :
    sameShape (seenItems top items0 st) items' := by
  have hs := processRule_nodeRes env cfg top sel items0 st
  rw [h] at hs
  exact hs.1

theorem processNodes_sameShape (env : CliEnv) (cfg : Cfg) (st : St) (nodes nodes' : List Node) (st' : St)
    (h : processNodes env cfg st nodes = .ok (nodes', st')) : sameShapeNodes nodes nodes' := by
  have hs := processNodes_spec env cfg st nodes
  rw [h] at hs
  exact hs.1

/-- a written file has the same rules, selectors, at-rules, comments and declarations
    in the same order as its input, differing at most in declaration values -/
theorem only_values_change (env : CliEnv) (cfg : Cfg) (nodes : List Node) (st0 : St) (out : List Node) (st' : St)
    (h : processFile env cfg nodes st0 = (.written out, st')) : sameShapeNodes nodes out := by
  have hs := processFile_spec env cfg nodes st0
  rw [h] at hs
  exact hs.1

/-- which values change: a visited rule outside the pre-parsed blocks is literally unchanged, or has exactly the value of its last
    `color` declaration replaced (`_sel`: relations under `relNode` take the selector) -/
def OnlyColour (_sel : Str) (a b : List Item) : Prop :=
  b = a ∨ ∃ (ci : Nat) (cd : Decl) (v : Str), lastDecl a "color".toList = some (ci, cd) ∧ b = setDeclValue a ci v

/-- one non-shared rule: unchanged unless reported as adjusted, and then only its text-colour value changes -/
theorem processRule_only_colour (env : CliEnv) (cfg : Cfg) (sel : Str) (items0 : List Item) (st : St)
    (items' : List Item) (st' : St) (h : processRule env cfg none sel items0 st = .ok (items', st')) :
    (st'.tuned = st.tuned → items' = items0) ∧ OnlyColour sel items0 items' := by
  refine ⟨fun hnt => (C08.attention_unchanged env cfg none sel items0 st items' st' h hnt).1, ?_⟩
  rcases processRule_ok h with ⟨h1, _⟩ | ⟨ci, cd, hl, _, ht⟩
  · exact .inl h1
  · cases hvar : viaVarOf env st (strip env cd.value) with
    | none =>
      obtain ⟨hitems, _⟩ := tunedStep_ok_direct env cfg none sel items0 st ci cd hl hvar items' st' ht
      exact .inr ⟨ci, cd, _, hl, hitems⟩
    | some nd =>
      obtain ⟨_, _, hitems⟩ := tunedStep_ok_var env cfg none sel items0 st ci cd nd.1 nd.2 hvar items' st' ht
      exact .inl hitems

/-- in a written file every node other than a top-level `:root` / `html` rule is the input node with each visited rule `OnlyColour`
    of its input (top-level `:root` / `html` rules: `only_values_change`; their custom-property values may change too) -/
theorem only_adjusted_values_change (env : CliEnv) (cfg : Cfg) (nodes : List Node) (st0 : St) (out : List Node)
    (st' : St) (h : processFile env cfg nodes st0 = (.written out, st')) (i : Nat) (n : Node)
    (hn : nodes[i]? = some n) (hnr : ∀ sel items, n = .rule sel items → isRootSel sel = false) :
    ∃ n', out[i]? = some n' ∧ relNode OnlyColour n n' := by
  obtain ⟨n', hn', hrel⟩ := processFile_stepped env cfg nodes st0 out st' h i n hn hnr
  refine ⟨n', hn', relNode_mono ?_ n n' hrel⟩
  intro sel a b ⟨st, st1, hstep⟩
  exact (processRule_only_colour env cfg sel a st b st1 hstep).2

/-- `@`-rules other than `@media` / `@supports`, comments and every other top-level node are copied verbatim -/
theorem opaque_nodes_verbatim (env : CliEnv) (cfg : Cfg) (top : Option Nat) (st : St) :
    (∀ t ok, processNode env cfg top st (.other t ok) = .ok (.other t ok, st)) ∧
    (∀ kw pre body, (kw = "media".toList || kw = "supports".toList) = false →
      processNode env cfg top st (.at kw pre body) = .ok (.at kw pre body, st)) := by
  refine ⟨fun t ok => processNode_other env cfg top st t ok, fun kw pre body hk => ?_⟩
  rw [processNode_at, show isNested kw = false from hk]
  rfl

/-- the output name differs from the input name: the tool never writes over its input -/
theorem outName_ne (name : Str) : outName name ≠ name := Cm.Fs.outName_ne name

theorem outName_length (name : Str) : (outName name).length = name.length + 3 := Cm.Fs.outName_length name

/-- for `x.css` (with a non-empty `x`) the output is `x_cm.css` -/
theorem outName_of_css (name : Str) (h : isCssName name = true) (hl : name.length > 4) :
    outName name = name.take (name.length - 4) ++ "_cm.css".toList := Cm.Fs.outName_of_css name h hl

theorem isCmName_outName (name : Str) (h : isCssName name = true) (hl : name.length > 4) :
    isCmName (outName name) = true := Cm.Fs.isCmName_outName name h hl

/-- the dot-file edge: the only `*.css` name of length ≤ 4 is `.css`, which `pathlib` gives an empty suffix,
    so the output is `.css_cm` — not a `.css` file at all -/
theorem outName_dotfile (name : Str) (h : isCssName name = true) (hl : ¬ name.length > 4) :
    name = ".css".toList ∧ outName name = ".css_cm".toList ∧ isCssName (outName name) = false := by
  have := css_short name h hl
  subst this
  exact ⟨rfl, outName_dotcss, by decide +kernel⟩

/-- distinct stylesheets are written to distinct outputs -/
theorem outName_injective (a b : Str) (ha : isCssName a = true) (hb : isCssName b = true)
    (h : outName a = outName b) : a = b := by
  have hlen : a.length = b.length := by
    have := congrArg List.length h
    rw [outName_length, outName_length] at this
    omega
  by_cases hla : a.length > 4
  · obtain ⟨t, rfl⟩ := (isCssName_iff a).1 ha
    obtain ⟨u, rfl⟩ := (isCssName_iff b).1 hb
    have ht : t ≠ [] := by intro h0; subst h0; simp at hla
    have hu : u ≠ [] := by intro h0; subst h0; simp at hlen; exact ht hlen
    rw [outName_css t ht, outName_css u hu] at h
    rw [List.append_cancel_right h]
  · rw [css_short a ha hla, css_short b hb (hlen ▸ hla)]

/-- everything a run writes is `outName` of one of its readable inputs, with the content `processFile` computes for that file
    alone: results go to the sibling `<name>_cm.css` and nowhere else -/
theorem writes_beside_inputs (env : CliEnv) (cfg : Cfg) (files : List (Str × FileIn)) (w : Str × List Node)
    (hw : w ∈ (run env cfg files).writes) :
    ∃ name nodes, (name, FileIn.css nodes) ∈ files ∧ w.1 = outName name ∧
      (processFile env cfg nodes {}).1 = .written w.2 :=
  (C18.run_write_of_file env cfg files w).1 hw

/-- when the inputs are what discovery yields for a directory, no written name is one of
    that directory's inputs: running the tool never modifies its input files -/
theorem writes_not_inputs (env : CliEnv) (cfg : Cfg) (dir : List Str) (files : List (Str × FileIn))
    (hfiles : ∀ f ∈ files, f.1 ∈ discovered dir) (w : Str × List Node) (hw : w ∈ (run env cfg files).writes) :
    w.1 ∉ discovered dir ∧ ∀ f ∈ files, w.1 ≠ f.1 := by
  obtain ⟨name, nodes, hmem, hname, _⟩ := writes_beside_inputs env cfg files w hw
  have hno : w.1 ∉ discovered dir := hname ▸ C18.outputs_not_inputs dir dir name (hfiles _ hmem)
  exact ⟨hno, fun f hf e => hno (e ▸ hfiles f hf)⟩

section Examples
open Cm.Cli.Demo

/-- a written file whose only difference from the input is the value of `p`'s `color` declaration; the
    comment, the `@media` block and the rule without a text colour are copied -/
example : processFile asciiEnv cfgTune sheet {} = (.written sheetOut, (processFile asciiEnv cfgTune sheet {}).2) ∧
    sameShapeNodes sheet sheetOut :=
  ⟨rfl, only_values_change asciiEnv cfgTune sheet {} sheetOut _ rfl⟩

/-- `style.css` is written to `style_cm.css`; `.css` to `.css_cm` -/
example : outName "style.css".toList = "style_cm.css".toList ∧ outName ".css".toList = ".css_cm".toList ∧
    isCssName "style.css".toList = true ∧ "style.css".toList.length > 4 := by decide +kernel

/-- a run over a discovered directory writes one sibling and touches no input -/
example : (run asciiEnv cfgTune [("a.css".toList, .css sheet), ("b.css".toList, .unreadable)]).writes.map (·.1) =
    ["a_cm.css".toList] ∧
    discovered ["a.css".toList, "b.css".toList, "old_cm.css".toList, "x.txt".toList] = ["a.css".toList, "b.css".toList] := by
  decide +kernel

end Examples

end CmProps.C09
