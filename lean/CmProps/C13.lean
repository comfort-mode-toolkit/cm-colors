import CmModel.Color
import CmProofs.ColorNew
/-!
# C13 — translucent text is judged as it will be seen over its own background
-/
namespace CmProps.C13
open Cm Cm.Parse
variable {α : Type} [NumT α]

/-- `ColorPair` parses the background first and hands *its* colour to the text colour as the
    compositing context — not white, not nothing -/
theorem pair_uses_own_bg (E : PEnv) (text bg : PyVal α) (large : Bool) :
    (ColorPair.new E text bg large).text =
      Color.new E text (some (Color.new E bg none)) ∧
    (ColorPair.new E text bg large).bg = Color.new E bg none := ⟨rfl, rfl⟩

/-- a background is parsed with no context (`none`); that `none` stands for white is `default_bg_white` (rgba)
    and the `bg.getD (255, 255, 255)` of `hsla_blend` -/
theorem bg_over_white (E : PEnv) (bg : PyVal α) :
    (Color.new E bg none).state =
      (match parseColor E bg none with
       | .ok rgb => ColorState.valid rgb
       | .error .valueError => .invalid
       | .error .typeError => .invalid
       | .error .overflowError => .invalid) := by
  rw [Color.new_eq]
  show (match parseColor E bg none with | .ok c => ColorState.valid c | .error _ => .invalid) = _
  cases parseColor E bg none with
  | ok c => rfl
  | error e => cases e <;> rfl

/-- a colour built with a valid context colour `c` is parsed against `c`'s rgb -/
theorem color_new_with_ctx (E : PEnv) (v : PyVal α) (c : Color α) (b t : RGB)
    (hb : c.state = .valid b) (ht : parseColor E v (some b) = .ok t) :
    (Color.new E v (some c)).state = .valid t := by
  have hr : c.rgb? = some b := by unfold Color.rgb?; rw [hb]
  rw [Color.new_eq]
  simp only [hr, ht]

/-- the text colour's parse receives exactly the background's parsed rgb -/
theorem text_composited_over_bg (E : PEnv) (text bg : PyVal α) (large : Bool) (b : RGB)
    (hb : (Color.new E bg none).state = .valid b) (t : RGB)
    (ht : parseColor E text (some b) = .ok t) :
    (ColorPair.new E text bg large).text.state = .valid t :=
  color_new_with_ctx E text (Color.new E bg none) b t hb ht

/-- the readability query judges the composite -/
theorem judged_is_composite (p : ColorPair α) (t b : RGB)
    (ht : p.text.state = .valid t) (hb : p.bg.state = .valid b) :
    p.isReadable = (wcagLevel (α := α) t b p.large).label := by
  unfold ColorPair.isReadable Color.rgb?
  rw [ht, hb]

end CmProps.C13
