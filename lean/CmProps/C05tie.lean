import CmModel.Wcag
import CmGen.Leaves
/-!
# C05 — the WCAG functions of the source, as translated on this run, are the model's

`CmGen/Leaves.lean` is regenerated from `/repo`'s `contrast.py` / `conversions.py` on every run by
`harness/translate/leaves.py` (a mechanical image of each function's syntax tree over the abstract
carrier). The theorems below identify those images with the hand-written definitions every other C05
theorem is about — for every carrier, by unfolding alone. A changed coefficient, threshold, operator or
operation order in the source makes one of them fail to check.
-/
namespace CmProps.C05
open Cm
variable {α : Type} [NumT α]

/-- `conversions.srgb_to_linear` -/
theorem source_srgb_to_linear (c : α) : CmGen.Leaves.srgb_to_linear c = srgbToLinear c := rfl

/-- `contrast.calculate_relative_luminance` -/
theorem source_relative_luminance (c : RGB) : CmGen.Leaves.calculate_relative_luminance (α := α) c = luminance c := rfl

/-- `contrast.calculate_contrast_ratio` -/
theorem source_contrast_ratio (t bg : RGB) : CmGen.Leaves.calculate_contrast_ratio (α := α) t bg = contrastRatio t bg := rfl

/-- printing commutes with `if` (core's `apply_ite` would bring in `propext`) -/
private theorem toString_ite (c : Prop) [h : Decidable c] (a b : Level) :
    (if c then a else b).toString = if c then a.toString else b.toString := by
  cases h <;> rfl

/-- `contrast.get_contrast_level` (the model's `Level` printed) -/
theorem source_contrast_level (r : α) (large : Bool) :
    CmGen.Leaves.get_contrast_level r large = (contrastLevel r large).toString := by
  unfold CmGen.Leaves.get_contrast_level contrastLevel
  -- one per `if`
  rw [toString_ite, toString_ite, toString_ite, toString_ite, toString_ite]
  rfl

/-- `contrast.get_wcag_level` -/
theorem source_wcag_level (t bg : RGB) (large : Bool) :
    CmGen.Leaves.get_wcag_level (α := α) t bg large = (wcagLevel (α := α) t bg large).toString := by
  show CmGen.Leaves.get_contrast_level (CmGen.Leaves.calculate_contrast_ratio (α := α) t bg) large = _
  rw [source_contrast_level, source_contrast_ratio]; rfl

/-- a closed instance of `source_contrast_level`, at the `Float` carrier -/
example : CmGen.Leaves.get_contrast_level (7.0 : Float) false = (contrastLevel (7.0 : Float) false).toString :=
  source_contrast_level _ _

end CmProps.C05
