import CmModel.Html
import CmGen.Templates
/-!
# C19 — reports are injection-safe: user text appears only HTML-escaped

The templates and the per-slot substitution tables are regenerated from the behaviour of the two
report generators on every run (`CmGen/Templates.lean`).
-/
namespace CmProps.C19
open Cm.Html

/-- the characters that can open or close a tag or an attribute value (`&` cannot) -/
def isMeta (c : Nat) : Bool := c = 60 || c = 62 || c = 34 || c = 39

theorem escapeChar_no_meta (c : Nat) : ∀ x ∈ escapeChar c, isMeta x = false := by
  fun_cases escapeChar c
  -- the last case: any other character stands for itself
  case case6 _ h60 h62 h34 h39 =>
    intro x hx
    rw [List.mem_singleton] at hx
    subst hx
    simp [isMeta, h60, h62, h34, h39]
  -- the five references hold no metacharacter
  all_goals decide

/-- no `<`, `>`, `"`, `'` survives escaping -/
theorem escape_no_meta (s : Str) : ∀ x ∈ escape s, isMeta x = false := by
  intro x hx
  obtain ⟨c, _, hc⟩ := List.mem_flatMap.1 hx
  exact escapeChar_no_meta c x hc

theorem unescape_cons_ne (c : Nat) (h : c ≠ 38) (r : Str) : unescape (c :: r) = c :: unescape r := by
  -- only the clause `c :: r` of `unescape` applies; its side conditions say that the text does not begin with one of
  -- the five references, and these begin with `&`
  rw [unescape]
  all_goals exact fun _ e _ => h e

theorem unescape_escapeChar (c : Nat) (r : Str) : unescape (escapeChar c ++ r) = c :: unescape r := by
  fun_cases escapeChar c
  case case6 h38 _ _ _ _ => exact unescape_cons_ne c h38 r
  -- for each of the five references the matching clause of `unescape` computes
  all_goals subst c; rfl

/-- the escaped text displays verbatim: an HTML reader decodes it back to the given string -/
theorem unescape_escape (s : Str) : unescape (escape s) = s := by
  induction s with
  | nil => rfl
  | cons c s ih =>
    show unescape (escapeChar c ++ escape s) = c :: s
    rw [unescape_escapeChar, ih]

theorem run_append (st : HState) (a b : Str) : run st (a ++ b) = run (run st a) b := by
  induction a generalizing st with
  | nil => rfl
  | cons c a ih => rw [List.cons_append, run_cons, run_cons, ih]

theorem skeletonFrom_cons (st : HState) (c : Nat) (r : Str) :
    skeletonFrom st (c :: r) = (if isMarkup st c then [c] else []) ++ skeletonFrom (step st c) r := by
  rw [skeletonFrom]; split <;> rfl

theorem skeletonFrom_append (st : HState) (a b : Str) :
    skeletonFrom st (a ++ b) = skeletonFrom st a ++ skeletonFrom (run st a) b := by
  induction a generalizing st with
  | nil => rfl
  | cons c a ih => rw [List.cons_append, skeletonFrom_cons, skeletonFrom_cons, run_cons, ih, List.append_assoc]

theorem render_lit (s : Str) (t : List Seg) (f : String → Str) : render (.lit s :: t) f = s ++ render t f := rfl
theorem render_slot (n : String) (t : List Seg) (f : String → Str) : render (.slot n :: t) f = f n ++ render t f := rfl

theorem step_of_not_meta {st : HState} (hst : st = .data ∨ st = .dq) {x : Nat} (hx : isMeta x = false) :
    step st x = st ∧ isMarkup st x = false := by
  simp only [isMeta, Bool.or_eq_false_iff, decide_eq_false_iff_not] at hx
  obtain ⟨⟨⟨h60, -⟩, h34⟩, -⟩ := hx
  rcases hst with rfl | rfl
  · -- element text: `<` alone opens a tag, and it alone is markup
    exact ⟨if_neg h60, decide_eq_false h60⟩
  · -- double-quoted value: `"` alone closes it, and it alone is markup
    exact ⟨if_neg h34, decide_eq_false h34⟩

/-- a string without metacharacters does not move the tokenizer out of element text or out of a double-quoted
    attribute value, and contributes nothing to the markup -/
theorem run_no_meta {st : HState} (hst : st = .data ∨ st = .dq) (s : Str) (h : ∀ x ∈ s, isMeta x = false) :
    run st s = st ∧ skeletonFrom st s = [] := by
  induction s with
  | nil => exact ⟨rfl, rfl⟩
  | cons c s ih =>
    obtain ⟨hstep, hm⟩ := step_of_not_meta hst (h c List.mem_cons_self)
    rw [run_cons, skeletonFrom_cons, hstep, hm]
    exact ih fun x hx => h x (List.mem_cons_of_mem _ hx)

/-- general form of the structure theorem: any filling free of `<`, `>`, `"`, `'`, from any state; the second conjunct
    carries the induction past a literal -/
theorem render_structure_from (t : List Seg) (st : HState) (f : String → Str)
    (hsafe : ((slotStates st t).all fun p => p.2 = .data || p.2 = .dq) = true)
    (hf : ∀ n, ∀ x ∈ f n, isMeta x = false) :
    skeletonFrom st (render t f) = skeletonFrom st (render t fun _ => []) ∧
    run st (render t f) = run st (render t fun _ => []) := by
  induction t generalizing st with
  | nil => exact ⟨rfl, rfl⟩
  | cons seg t ih =>
    cases seg with
    | lit s =>
      rw [slotStates_lit] at hsafe
      obtain ⟨h1, h2⟩ := ih (run st s) hsafe
      rw [render_lit, render_lit, skeletonFrom_append, skeletonFrom_append, run_append, run_append, h1, h2]
      exact ⟨rfl, rfl⟩
    | slot n =>
      rw [slotStates, List.all_cons, Bool.and_eq_true, Bool.or_eq_true, decide_eq_true_eq, decide_eq_true_eq] at hsafe
      obtain ⟨hst, hrest⟩ := hsafe
      obtain ⟨hr, hs⟩ := run_no_meta hst (f n) (hf n)
      rw [render_slot, render_slot, skeletonFrom_append, run_append, hr, hs]
      -- with `[] ++ _` dropped on both sides, the claim for the rest of the template
      show skeletonFrom st (render t f) = skeletonFrom st (render t fun _ => []) ∧
        run st (render t f) = run st (render t fun _ => [])
      exact ih st hrest

/-- **structure theorem**: if every slot of a template sits in element text or inside a double-quoted
    attribute value, then for *any* strings put into the slots — once escaped — the markup of the
    rendered document is the markup of the template alone: no element, attribute or quote of its own. -/
theorem render_structure (t : List Seg) (hsafe : slotsSafe t = true) (f : String → Str) :
    skeleton (render t (fun n => escape (f n))) = skeleton (render t (fun _ => [])) :=
  (render_structure_from t .data _ hsafe fun n => escape_no_meta (f n)).1

/-- every user slot of the CLI report sits in element text or a double-quoted attribute value -/
theorem templates_ok_cli : slotsSafe CmGen.cliReport = true := by decide +kernel

theorem templates_ok_api : slotsSafe CmGen.apiReport = true := by decide +kernel

/-- the substitution observed for a slot and metacharacter is exactly `html.escape`'s -/
def escapesOk (tbl : List (String × Nat × List (List Nat))) (slots : List String) : Bool :=
  slots.all fun s => [38, 60, 62, 34, 39].all fun m =>
    tbl.any fun e => e.1 = s && e.2.1 = m && e.2.2 = [escapeChar m]

/-- every user-controlled slot of the CLI report is escaped (all five metacharacters, every occurrence) -/
theorem slots_escaped_cli : escapesOk CmGen.cliReportEscapes CmGen.cliReportSlots = true := by decide +kernel

theorem slots_escaped_api : escapesOk CmGen.apiReportEscapes CmGen.apiReportSlots = true := by decide +kernel

/-- hence, for both generators and any user strings, the report has the template's markup only -/
theorem cli_report_structure (f : String → Str) :
    skeleton (render CmGen.cliReport (fun n => escape (f n))) = skeleton (render CmGen.cliReport (fun _ => [])) :=
  render_structure _ templates_ok_cli f

theorem api_report_structure (f : String → Str) :
    skeleton (render CmGen.apiReport (fun n => escape (f n))) = skeleton (render CmGen.apiReport (fun _ => [])) :=
  render_structure _ templates_ok_api f

/-- non-vacuity: a hostile selector -/
example : escape (ofString "</div><script>alert('x')</script>") =
    ofString "&lt;/div&gt;&lt;script&gt;alert(&#x27;x&#x27;)&lt;/script&gt;" := by decide +kernel

end CmProps.C19
