import CmProofs.SearchWithin
/-! # C03 — one iteration of the lightness search only records candidates on the text's own chroma/hue line
(the loop invariants are in `C03search.lean`; `BSRec` of `CmProofs/SearchComplete.lean` contains this) -/
namespace CmProps.C03
open Cm
variable {α : Type} [Num α]

theorem bsStep_on_line (O : Leaf α) (t bg : RGB) (thr target c h : α) (up : Bool) (s : BS α)
    (hs : ∀ r, s.best = some r → ∃ L, r = O.ofOklch (L, c, h)) :
    ∀ r, (bsStep O t bg thr target c h up s).best = some r → ∃ L, r = O.ofOklch (L, c, h) := by
  unfold bsStep
  grind

end CmProps.C03
