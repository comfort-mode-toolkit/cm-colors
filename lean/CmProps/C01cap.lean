import CmProps.C01api
import CmProps.C06api
/-!
# C01 — the property, stated about the image of the source

`C06api.lean` proves that the value returned by `make_readable` as translated from `colors.py` on this run is the model's, whatever
`show` / `save_report` say; hence `C01api`'s theorem about the translated method. `checkAndFix` and `thresholds` in the statements
are the model's (`C01opt.source_check_and_fix` and `C01tie.source_thresholds` identify them with the source's).
-/
namespace CmProps.C01
open Cm Cm.Parse Cm.FmtRt

/-- how every API-level theorem of C01, C02, C04, C16 is carried over to the source -/
theorem source_make_readable_eq_ok {α : Type} [NumT α] (E : PEnv) (O : Leaf α) (d : Descend α) (cond : Nat → Bool)
    (p : ColorPair α) (mode : Int) (very show_ save : Bool) (out : OutVal α) (ok : Bool) :
    Prod.fst <$> CmGen.Api.ColorPair_make_readable E O d cond p mode very show_ save = .ok (some out, ok) ↔
      p.makeReadable E O d mode very = some (out, ok) := by
  rw [CmProps.C06.source_make_readable_result]
  exact ⟨fun h => (CmProps.C06.asPython_eq_some _ out ok).1 (Except.ok.inj h), fun h => by rw [h]; rfl⟩

/-- `make_readable(mode, very_readable, show, save_report)`, as translated, returns `(out, ok)` where `out` reads back as a
    colour `c` and `ok` is exactly `contrast(c, background) ≥ the minimum for these settings` -/
theorem source_make_readable_flag {α : Type} [NumT α] (hα : ByteExact α) (hH : HslExact α) (E : PEnv)
    (hf : AsciiFaithful E.cls) (hk : keysLower E.named = true) (O : Leaf α) (d : Descend α) (cond : Nat → Bool)
    (p : ColorPair α) (mode : Int) (very show_ save : Bool) (t b : RGB) (ht : p.text.rgb? = some t)
    (hb : p.bg.rgb? = some b) (hv : validRgb (checkAndFix O d t b p.large mode very).1 = true) (bg' : Option RGB) :
    ∃ out ok c, Prod.fst <$> CmGen.Api.ColorPair_make_readable E O d cond p mode very show_ save = .ok (some out, ok) ∧
      readBack (α := α) E bg' out = some c ∧
      ok = Num.ge (O.contrast c b) (thresholds (α := α) p.large very).1 := by
  obtain ⟨out, ok, c, h, hr, hflag⟩ := makeReadable_flag hα hH E hf hk O d p mode very t b ht hb hv bg'
  exact ⟨out, ok, c, (source_make_readable_eq_ok ..).2 h, hr, hflag⟩

end CmProps.C01
