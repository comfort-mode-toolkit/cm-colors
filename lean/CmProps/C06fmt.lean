import CmModel.Parser
import CmGen.ParserSrc
/-!
# C06 — `detect_color_format` and `format_color`, as translated from the source on this run, are the model's

`make_readable` hands its answer back in the notation the caller used: `detect_color_format` names that notation,
`format_color` prints the tuned colour in it. Both are translated statement by statement from
`core/color_parser.py` (`harness/translate/parsersrc.py` → `CmGen/ParserSrc.lean`).

Abstractions of the images (see the translator's docstring): a format name is a `Fmt` (the string literal ↔ constructor
table is re-checked against `Fmt.toString` inside the generated file); the `str`-or-tuple result of `format_color` is an
`OutVal`; the callees `rgb_to_hex`, `rgbint_to_string`, `rgb_to_hsl` are the model's `fmtHex`, `fmtRgbFn`,
`rgbToHslText` by name (their own ties: `C06conv`, `C06hsl`, `C06tie`).
-/
namespace CmProps.C06
open Cm Cm.Parse
variable {α : Type} [Num α]

omit [Num α] in
/-- `detect_color_format(color)`, for every Python value the model distinguishes -/
theorem source_detect_color_format (E : PEnv) (color : PyVal α) :
    CmGen.ParserSrc.detect_color_format E color = detectFormat E color := by
  unfold CmGen.ParserSrc.detect_color_format detectFormat
  cases color <;> simp only [decide_eq_true_eq] <;> rfl

/-- `format_color(rgb, format_type)`, the format name read as a `Fmt` -/
theorem source_format_color (c : RGB) (f : Fmt) :
    CmGen.ParserSrc.format_color (α := α) c f = formatColor c f := by
  unfold CmGen.ParserSrc.format_color formatColor
  cases f <;> rfl

end CmProps.C06
