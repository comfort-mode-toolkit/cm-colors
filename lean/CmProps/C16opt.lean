import CmProofs.SourceOpt
/-!
# C16 — the optimiser functions this property's theorems are about are the source's, as translated on this run

The equations of `CmProofs/SourceOpt.lean`, restated in this property's namespace.
-/
namespace CmProps.C16
open Cm Cm.SourceOpt
variable {α : Type} [Num α]

theorem source_strategies (O : Leaf α) (d : Descend α) (t bg : RGB) (large : Bool) (target minC : α) :
    CmGen.Opt.strategy_strict O (gdOf O d) t bg large target minC = strategyStrict O d t bg target minC ∧
    CmGen.Opt.strategy_recursive O (gdOf O d) t bg large target minC = strategyRecursive O d t bg target minC ∧
    CmGen.Opt.strategy_relaxed O (gdOf O d) t bg large target minC = strategyRelaxed O d t bg target minC :=
  ⟨source_strategy_strict O d t bg large target minC, source_strategy_recursive O d t bg large target minC,
   source_strategy_relaxed O d t bg large target minC⟩

/-- `check_and_fix_contrast`, from the point where both colours are parsed to its `return` (threshold table, the shortcut
    for pairs that already pass, the dispatch on `mode`, what is returned), is the model's `checkAndFix` -/
theorem source_check_and_fix (O : Leaf α) (d : Descend α) (t bg : RGB) (large : Bool) (mode : Int) (premium : Bool) :
    CmGen.Opt.check_and_fix_contrast_core O (gdOf O d) t bg large mode premium = checkAndFix O d t bg large mode premium :=
  Cm.SourceOpt.source_check_and_fix O d t bg large mode premium

end CmProps.C16
