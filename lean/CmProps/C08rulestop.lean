import CmProofs.CliTopLemmas
import CmGen.CliRules
import CmProps.C08rules
/-!
# C08 — the loop of `process_nodes_recursive` run on the stylesheet itself (the call in `main`) is the model's `processTop`

`CmGen.CliRules.process_top` is the translated loop with `top = some i` for node number i (`rule_declarations.get(id(node))` is
tried for *every* top-level node); the model's `processTop` passes the index only for `:root` / `html` rules. They agree for
every state in which only such rules have a pre-parsed block (`RootKeys`, established by the pre-pass and preserved by every
step), with the conventions of `C08rules.lean` (`late = fun _ _ => false`; `.error` states compared through `onError`).
-/
namespace CmProps.C08
open Cm Cm.Cli CmGen.CliRules

/-- the loop of `process_nodes_recursive` run on the stylesheet (as `main` calls it) is the model's `processTop`, for a state whose
    pre-parsed blocks belong to top-level `:root` / `html` rules (`RootKeys`). The `RootInv` hypothesis is not used, only passed on. -/
theorem source_process_top (env : CliEnv) (cfg : Cfg) : (ns : List Node) → (i : Nat) → (st : St) →
    RootInv ns i st.rootDecls → RootKeys ns i st.rootDecls →
    onError (process_top env cfg (fun _ _ => false) ns i st) = onError (processTop env cfg ns i st)
  | [], i, st, _, _ => by rw [processTop_nil]; rfl
  | n :: ns, i, st, hinv, hkeys => by
    have h1 := source_process_node_top env cfg (some i) st n
    rw [processNode_topOf env cfg n ns i st hkeys] at h1
    -- the image's loop, one turn, in `>>=` form (as `processTop_cons`)
    have e : process_top env cfg (fun _ _ => false) (n :: ns) i st =
        process_node env cfg (fun _ _ => false) (some i) st n >>= fun (n', st1) =>
          process_top env cfg (fun _ _ => false) ns (i + 1) st1 >>= fun (ns', st2) => pure (n' :: ns', st2) := by
      rw [process_top]
      cases process_node env cfg (fun _ _ => false) (some i) st n with
      | error e => rfl
      | ok p =>
        obtain ⟨n', st1⟩ := p
        dsimp only [bind, Except.bind]
        cases process_top env cfg (fun _ _ => false) ns (i + 1) st1 <;> rfl
    rw [processTop_cons, e]
    refine onError_bind h1 fun (n', st1) hr => ?_
    have hle := (rootsLe_respected env cfg).node (topOf n i) st n
    rw [hr] at hle
    exact onError_bind (source_process_top env cfg ns (i + 1) st1 (hinv.step hle) (hkeys.step hle)) fun _ _ => rfl

/-- the state `main` starts the loop from satisfies both hypotheses -/
theorem source_process_top_prepass (env : CliEnv) (cfg : Cfg) (nodes : List Node) (st0 : St) :
    onError (process_top env cfg (fun _ _ => false) nodes 0 (fileSt env nodes st0)) =
      onError (processTop env cfg nodes 0 (fileSt env nodes st0)) :=
  source_process_top env cfg nodes 0 _ (prePass_rootInv env nodes) (prePass_rootKeys env nodes)

end CmProps.C08
