import CmProofs.SearchSim
import CmProofs.Schedules
import CmProofs.Strategy
/-!
# C16 — asking for less never fails

(a) whenever mode 1 succeeds, mode 2 returns the identical colour with success;
(b) whenever a very_readable request succeeds, the ordinary request for the same pair, mode and text size succeeds.
Every carrier with a lawful order, every leaf oracle, every descent function.
-/
set_option linter.unusedSectionVars false  -- `target_same`, `min_le` carry the section's `[LawfulNumOrd α]` unused
namespace CmProps.C16
open Cm
variable {α : Type} [Num α]

/-- (a) at strategy level: mode 2 runs mode 1 first and returns its result on success (no law needed) -/
theorem relaxed_of_recursive (O : Leaf α) (d : Descend α) (t bg : RGB) (target minC : α)
    (h : (strategyRecursive O d t bg target minC).2 = true) :
    strategyRelaxed O d t bg target minC = strategyRecursive O d t bg target minC :=
  strategyRelaxed_of_recursive O d t bg target minC h

/-- (a) at `check_and_fix_contrast` level -/
theorem mode2_of_mode1 (O : Leaf α) (d : Descend α) (t bg : RGB) (large premium : Bool)
    (h : (checkAndFix O d t bg large 1 premium).2 = true) :
    checkAndFix O d t bg large 2 premium = checkAndFix O d t bg large 1 premium := by
  rw [checkAndFix_eq, strategyOf_one] at h
  rw [checkAndFix_eq, checkAndFix_eq, strategyOf_one, strategyOf_two]
  by_cases hc : Num.ge (O.contrast t bg) (thresholds (α := α) large premium).1 = true
  · rw [if_pos hc, if_pos hc]
  · rw [if_neg hc] at h
    rw [if_neg hc, if_neg hc]
    exact relaxed_of_recursive O d t bg _ _ h

variable [LawfulNumOrd α]

/-- (b) for one multi-phase search, any two minima `m2 ≤ m1` -/
theorem gen_weaker_min (O : Leaf α) (d : Descend α) (t bg : RGB) (target m1 m2 : α) (sched : List α)
    (h21 : Num.le m2 m1 = true)
    (h1 : Num.ge (O.contrast (genAccessible O d t bg target m1 sched) bg) m1 = true) :
    Num.ge (O.contrast (genAccessible O d t bg target m2 sched) bg) m2 = true := by
  rcases genAccessible_sim O d t bg target m1 m2 sched h21 with h | h
  · rw [h]; exact le_trans' h21 h1
  · exact h

theorem strict_weaker_min (O : Leaf α) (d : Descend α) (t bg : RGB) (target m1 m2 : α)
    (h21 : Num.le m2 m1 = true) (h1 : (strategyStrict O d t bg target m1).2 = true) :
    (strategyStrict O d t bg target m2).2 = true :=
  gen_weaker_min O d t bg target m1 m2 defaultSchedule h21 h1

theorem recursiveLoop_weaker_min (O : Leaf α) (d : Descend α) (bg : RGB) (target m1 m2 : α)
    (h21 : Num.le m2 m1 = true) (n : Nat) (cur : RGB)
    (h1 : (recursiveLoop O d bg target m1 n cur).2 = true) :
    (recursiveLoop O d bg target m2 n cur).2 = true := by
  induction n generalizing cur with
  | zero => cases h1
  | succ n ih =>
    rw [recursiveLoop_succ] at h1 ⊢
    -- a colour that fails the weaker minimum fails the stricter one
    have weak : ∀ c, ¬ Num.ge (O.contrast c bg) m2 = true → ¬ Num.ge (O.contrast c bg) m1 = true :=
      fun c h2 h => h2 (le_trans' h21 h)
    by_cases hc : Num.ge (O.contrast cur bg) m2 = true
    · rw [if_pos hc]
    · rw [if_neg hc]
      rw [if_neg (weak _ hc)] at h1
      -- the two runs take the same step, or the weaker one finds a passing colour at once
      rcases genAccessible_sim O d cur bg target m1 m2 stepSchedule h21 with heq | hpass
      · simp only [stepOf, heq] at h1 ⊢
        by_cases hn : Num.ge (O.contrast (genAccessible O d cur bg target m1 stepSchedule) bg) m2 = true
        · rw [if_pos hn]
        · rw [if_neg hn]
          rw [if_neg (weak _ hn)] at h1
          by_cases hne : genAccessible O d cur bg target m1 stepSchedule = cur
          · rw [if_pos hne] at h1; cases h1
          · rw [if_neg hne] at h1 ⊢; exact ih _ h1
      · rw [if_pos hpass]

theorem recursive_weaker_min (O : Leaf α) (d : Descend α) (t bg : RGB) (target m1 m2 : α)
    (h21 : Num.le m2 m1 = true) (h1 : (strategyRecursive O d t bg target m1).2 = true) :
    (strategyRecursive O d t bg target m2).2 = true :=
  recursiveLoop_weaker_min O d bg target m1 m2 h21 10 t h1

theorem relaxed_weaker_min (O : Leaf α) (d : Descend α) (t bg : RGB) (target m1 m2 : α)
    (h21 : Num.le m2 m1 = true) (h1 : (strategyRelaxed O d t bg target m1).2 = true) :
    (strategyRelaxed O d t bg target m2).2 = true := by
  rw [strategyRelaxed_snd, Bool.or_eq_true, Bool.or_eq_true] at h1 ⊢
  rcases h1 with (h | h) | h
  · exact Or.inl (Or.inl (recursive_weaker_min O d t bg target m1 m2 h21 h))
  · exact Or.inl (Or.inr (recursiveLoop_weaker_min O d bg target m1 m2 h21 15 t h))
  · exact Or.inr (gen_weaker_min O d t bg target m1 m2 relaxedSchedule h21 h)

theorem strategyOf_weaker_min (mode : Int) (O : Leaf α) (d : Descend α) (t bg : RGB) (target m1 m2 : α)
    (h21 : Num.le m2 m1 = true) (h1 : (strategyOf mode O d t bg target m1).2 = true) :
    (strategyOf mode O d t bg target m2).2 = true := by
  rcases strategyOf_cases (α := α) mode with e | e | e <;> rw [e] at h1 ⊢
  · exact strict_weaker_min O d t bg target m1 m2 h21 h1
  · exact relaxed_weaker_min O d t bg target m1 m2 h21 h1
  · exact recursive_weaker_min O d t bg target m1 m2 h21 h1

/-- very_readable raises only the minimum: the target is the same -/
theorem target_same (large : Bool) :
    (thresholds (α := α) large true).2 = (thresholds (α := α) large false).2 := by
  cases large <;> rfl

variable [LawfulLit α]

/-- the ordinary minimum is at most the very_readable one -/
theorem min_le (large : Bool) :
    Num.le (thresholds (α := α) large false).1 (thresholds (α := α) large true).1 = true := by
  cases large
  · exact LawfulLit.lit_le 45 1 70 1 (by decide)
  · exact LawfulLit.lit_le 30 1 45 1 (by decide)

/-- (b) at `check_and_fix_contrast` level, any integer `mode` -/
theorem checkAndFix_ordinary_of_very_readable (O : Leaf α) (d : Descend α) (t bg : RGB) (large : Bool) (mode : Int)
    (h : (checkAndFix O d t bg large mode true).2 = true) :
    (checkAndFix O d t bg large mode false).2 = true := by
  have hle := min_le (α := α) large
  rw [checkAndFix_eq] at h ⊢
  by_cases hc : Num.ge (O.contrast t bg) (thresholds (α := α) large false).1 = true
  · rw [if_pos hc]
  · rw [if_neg hc]
    rw [if_neg (show ¬ Num.ge (O.contrast t bg) (thresholds (α := α) large true).1 = true from
      fun hh => hc (le_trans' hle hh)), target_same] at h
    exact strategyOf_weaker_min mode O d t bg _ _ _ hle h

end CmProps.C16
