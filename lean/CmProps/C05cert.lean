import CmProofs.CertSound
/-!
# C05 (certified form) — the WCAG verdict decided by exact rational interval arithmetic

`Cm.certVerdict a b thr : Option Bool` (`CmModel/Cert.lean`, Mathlib-free, compiled into the native
executable) answers `some v` only if `v` is the truth value of `thr ≤ contrast_ratio(a, b)` for the
**real-number** contrast ratio of the model (`Cm.contrastRatio` at the carrier `Cm.realNum`).
The 256-entry table of enclosures of the sRGB linearisation it relies on is checked entry by entry
in the Lean kernel (`decide +kernel`: no `native_decide`, no axiom beyond the three standard ones).
-/
namespace CmProps.C05
open Cm

/-- every table entry encloses the real sRGB linearisation of `v/255` (`linR` is `Cm.srgbToLinear` at ℝ:
`linR_is_model` below) -/
theorem linTable_sound (v : Nat) (hv : v ≤ 255) :
    ((linLo v : ℚ) : ℝ) ≤ linR ((v : ℝ) / 255) ∧ linR ((v : ℝ) / 255) ≤ ((linHi v : ℚ) : ℝ) :=
  Cm.linTable_sound v hv

theorem linR_is_model (c : ℝ) : @srgbToLinear ℝ realNum c = linR c :=
  Cm.srgbToLinear_real c

theorem linTable_width (v : Nat) (hv : v ≤ 255) : linHi v - linLo v ≤ 1 / 10 ^ 15 :=
  (Cm.linTable_rowOk v hv).width

/-- a decided verdict is the truth about the real contrast ratio -/
theorem certVerdict_sound (a b : RGB) (thr : ℚ) (v : Bool) :
    certVerdict a b thr = some v → ((thr : ℝ) ≤ @contrastRatio ℝ realNum a b ↔ v = true) :=
  Cm.certVerdict_sound a b thr v

/-- the reported rational enclosure contains the real contrast ratio -/
theorem ratio_sound (a b : RGB) (ha : validRgb a = true) (hb : validRgb b = true) :
    ((ratioLo a b : ℚ) : ℝ) ≤ @contrastRatio ℝ realNum a b ∧
    @contrastRatio ℝ realNum a b ≤ ((ratioHi a b : ℚ) : ℝ) := by
  obtain ⟨n1, n2, d1, d2, dpos, npos⟩ := num_den_sound a b ha hb
  have hdr : (0 : ℝ) < ((denLo a b : ℚ) : ℝ) := by exact_mod_cast denLo_pos a b ha hb
  rw [contrastRatio_real]
  unfold ratioLo ratioHi
  push_cast
  exact ⟨div_le_div₀ npos.le n1 dpos d2, div_le_div₀ (npos.le.trans n2) n2 hdr d1⟩

/-! Non-vacuity: `#777777` on white is 4.478… (fails AA), `#767676` on white is 4.542… (passes). -/
private theorem verdict_grey119 : certVerdict (119, 119, 119) (255, 255, 255) 4.5 = some false := by decide +kernel
private theorem verdict_grey118 : certVerdict (118, 118, 118) (255, 255, 255) 4.5 = some true := by decide +kernel
example : certVerdict (119, 119, 119) (255, 255, 255) 4.5 = some false := verdict_grey119
example : certVerdict (118, 118, 118) (255, 255, 255) 4.5 = some true := verdict_grey118
example : certVerdict (0, 0, 0) (255, 255, 255) 21 = some true := by decide +kernel
example : certVerdict (0, 0, 0) (256, 255, 255) 21 = none := by decide +kernel

private theorem cast_4_5 : ((4.5 : ℚ) : ℝ) = (4.5 : ℝ) := by norm_num

theorem grey119_fails : ¬ ((4.5 : ℝ) ≤ @contrastRatio ℝ realNum (119, 119, 119) (255, 255, 255)) := by
  rw [← cast_4_5, Cm.certVerdict_sound _ _ _ _ verdict_grey119]
  exact Bool.false_ne_true

theorem grey118_passes : (4.5 : ℝ) ≤ @contrastRatio ℝ realNum (118, 118, 118) (255, 255, 255) := by
  rw [← cast_4_5]
  exact (Cm.certVerdict_sound _ _ _ _ verdict_grey118).2 rfl

end CmProps.C05
