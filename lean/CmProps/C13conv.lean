import CmModel.Parser
import CmGen.ConvStr
import CmProps.C07conv
import CmProofs.ParseCore
/-!
# C13 — `rgba_to_rgb` and `hsla_to_rgb`, as translated from the source on this run, are the model's

`harness/translate/convstr.py` translates the whole body of `conversions.rgba_to_rgb` (validation of the components, of
the alpha, of the background, then the three blend lines) statement by statement into `CmGen.ConvStr.rgba_to_rgb`.
The model's `rgbaToRgb` takes the already typed arguments `(r g b : Int) (a : α) (bg : RGB)`; the image is over the
4-tuple `(r, g, b, a)` of those and the triple `bg` (the `isinstance` tests of the Python function are decided by this
typing, rule T1 of the translator: an abstraction stated in its docstring). (`C13tie.source_rgba_blend` covers only the
three blend lines, under hypotheses; `source_rgba_to_rgb` here covers the whole function unconditionally.)

`conversions.hsla_to_rgb` is translated twice, once per kind of argument (`hsla_color : Str`, and a 4-sequence of
arbitrary Python values `PyVal α × PyVal α × PyVal α × PyVal α`); `background` is `Option RGB` (`None` or a triple of
ints: the parser passes nothing else). Both images contain the common tail (range check, `hsl_to_rgb((h, s, l))`,
compositing by truncation). The inner call `hsl_to_rgb((h, s, l))` is the *generated* image
`CmGen.ConvStr.hsl_to_rgb_sequence E (.float h, .float s, .float l)` — `C07conv.source_hsl_to_rgb_sequence` turns it into
the model's `hslSeqToRgb`, which on three floats is `hslFinish (h % 360) s l` (`hslSeqToRgb_floats`), the form the model's
`hslaFinish` uses. Not reached by either image, hence not covered: the final `else: raise TypeError` of the dispatch and
the `else: raise ValueError` for a background that is not a 3-sequence.
-/
namespace CmProps.C13
open Cm Cm.Parse
variable {α : Type} [Num α]

/-- `rgba_to_rgb((r, g, b, a), background)`: the whole function -/
theorem source_rgba_to_rgb (r g b : Int) (a : α) (bg : RGB) :
    CmGen.ConvStr.rgba_to_rgb (r, g, b, a) bg = rgbaToRgb r g b a bg := by
  unfold CmGen.ConvStr.rgba_to_rgb
  -- the `isinstance` / `len` tests are decided by the typing; what is left of the two validations is `validRgb`, unfolded
  simp only [Bool.true_and, Bool.false_or, decide_true, Bool.not_true, Bool.false_eq_true, if_false]
  rfl

/-- the source evaluates `float(parts[3])` again in either branch; the model binds it once -/
private theorem bind_again {ε β γ : Type} {m : Except ε β} {c : β → Prop} [DecidablePred c] {f : β → β}
    {k : β → Except ε γ} :
    ((do let x ← m; if c x then m else do let y ← m; pure (f y)) >>= k) =
      (do let x ← m; k (if c x then x else f x)) := by
  cases m with
  | error e => rfl
  | ok v => by_cases h : c v <;> simp [h, bind, Except.bind, pure, Except.pure]

/-- `x = float(p) / 100 if p else 0.0`, then the rest `k`: the model's `do` block continues inside either branch -/
private theorem pct_bind {ε β β' γ : Type} {c : Bool} {z : β} {m : Except ε β'} {f : β' → β} {k k' : β → Except ε γ}
    (h : ∀ v, k v = k' v) :
    ((if (!c) = true then (do let x ← m; pure (f x)) else pure z) >>= k) =
      if c = true then (pure z >>= k') else (do let x ← m; let v ← pure (f x); k' v) := by
  obtain rfl : k = k' := funext h
  cases c
  · exact bind_assoc _ _ _
  · rfl

/-- `hsla_to_rgb((h, s, l, a), background)` for a 4-sequence of arbitrary Python values -/
theorem source_hsla_to_rgb_sequence (E : PEnv) (h s l a : PyVal α) (bg : Option RGB) :
    CmGen.ConvStr.hsla_to_rgb_sequence E (h, s, l, a) bg = hslaSeqToRgb E h s l a bg := by
  unfold CmGen.ConvStr.hsla_to_rgb_sequence hslaSeqToRgb hslaFinish
  simp only [CmProps.C07.source_hsl_to_rgb_sequence, hslSeqToRgb_floats, decide_true, if_true, ite_bnot, Bool.true_and]
  cases bg <;> rfl

/-- `hsla_to_rgb("hsla(…)", background)` -/
theorem source_hsla_to_rgb_string (E : PEnv) (s : Str) (bg : Option RGB) :
    CmGen.ConvStr.hsla_to_rgb_string (α := α) E s bg = hslaStrToRgb (α := α) E s bg := by
  unfold CmGen.ConvStr.hsla_to_rgb_string hslaStrToRgb
  dsimp only
  -- the same prefix and suffix test, negated in the model
  refine Eq.trans (ite_congr rfl (fun _ => ?_) fun _ => rfl) (ite_bnot _ _ _).symm
  generalize List.map _ _ = parts
  -- by the number of parts: only four parts are converted
  rcases parts with _ | ⟨p0, _ | ⟨p1, _ | ⟨p2, _ | ⟨p3, _ | ⟨p4, t⟩⟩⟩⟩⟩
  · rfl
  · rfl
  · rfl
  · rfl
  · -- `[p0, p1, p2, p3]`: hue, saturation, lightness, alpha in turn; the tail they share with the sequence image is
    -- that image on four floats
    refine bind_congr fun h0 => pct_bind fun s => pct_bind fun l => bind_again.trans (bind_congr fun a0 => ?_)
    exact source_hsla_to_rgb_sequence E (.float h0) (.float s) (.float l) (.float _) bg
  · rfl

end CmProps.C13
