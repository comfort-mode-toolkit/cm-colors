import CmModel.ApiVocab
import CmGen.Api
/-!
# C14 — `Color.__init__`/`_parse`, `ColorPair.__init__`, `is_valid`, as translated from the source on this run, are the model's

`harness/translate/api.py` reads `core/colors.py` and writes `CmGen/Api.lean`; here the images are proved equal to
`Color.new`, `ColorPair.new`, `Color.isValid`, `Color.rgb?`, `ColorPair.isValid` for every carrier, parser environment and
input. The list of exception kinds `_parse` records (instead of letting them escape) is generated from the `except`
clause, so narrowing or widening it changes the generated text and `source_color_parse` stops building.

Abstraction (documented in the translator): a colour argument is a `ColorInput` — how `detect_color_format` and
`parse_color_to_rgb` respond to it; a caller's Python value `v` is `Api.ofVal E v`. A kind missing from the `except`
clause would be kept by the image as `ColorState.raised` (`Api.raisedWith`); the model's `Color.new` produces none.
-/
namespace CmProps.C14
open Cm Cm.Parse
variable {α : Type} [NumT α]
set_option linter.unusedSectionVars false

/-- `Color.is_valid` -/
theorem source_color_is_valid (c : Color α) : CmGen.Api.Color_is_valid c = c.isValid := rfl

/-- `Color.rgb` -/
theorem source_color_rgb (c : Color α) : CmGen.Api.Color_rgb c = c.rgb? := rfl

private theorem ctx_rgb (c : Color α) :
    (if CmGen.Api.Color_is_valid c = true then CmGen.Api.Color_rgb c else none) = c.rgb? := by
  unfold CmGen.Api.Color_is_valid CmGen.Api.Color_rgb
  generalize c.rgb? = o; cases o <;> rfl

/-- `Color.__init__` with `_parse` inlined, on any colour argument: the general form -/
theorem source_color_parse_input (x : ColorInput) (ctx : Option (Color α)) :
    CmGen.Api.Color_new (α := α) x ctx =
      (match x.parse (match ctx with | some c => c.rgb? | none => none) with
       | .ok rgb => { fmt := x.detect, state := .valid rgb }
       | .error .valueError => { fmt := x.detect, state := .invalid }
       | .error .typeError => { fmt := x.detect, state := .invalid }
       | .error .overflowError => { fmt := x.detect, state := .invalid }) := by
  unfold CmGen.Api.Color_new
  simp only [Bool.false_eq_true, if_false, ctx_rgb]
  -- with or without a context the parser is asked once, and every outcome is recorded alike
  cases ctx
  all_goals
    generalize x.parse _ = r
    cases r with
    | ok rgb => rfl
    | error e => cases e <;> rfl

/-- `Color(color_input, background_context)` = the model's `Color.new` -/
theorem source_color_parse (E : PEnv) (v : PyVal α) (ctx : Option (Color α)) :
    CmGen.Api.Color_new (Api.ofVal E v) ctx = Color.new E v ctx := by
  rw [source_color_parse_input]; rfl

/-- `ColorPair(text_color, bg_color, large_text)` = the model's `ColorPair.new` (background first, then the text with the
    background as compositing context) -/
theorem source_color_pair_init (E : PEnv) (text bg : PyVal α) (large : Bool) :
    CmGen.Api.ColorPair_new (Api.ofVal E text) (Api.ofVal E bg) large = ColorPair.new E text bg large := by
  unfold CmGen.Api.ColorPair_new ColorPair.new
  simp only [source_color_parse]

/-- `ColorPair.is_valid` -/
theorem source_pair_is_valid (p : ColorPair α) : CmGen.Api.ColorPair_is_valid p = p.isValid := rfl

end CmProps.C14
