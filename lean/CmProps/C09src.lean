import CmProofs.CliFs
import CmGen.CliSrc
/-!
# C09 — output naming and file-system effects of `cli/main.py`, as translated from the source

`harness/translate/clisrc.py` generates `CmGen/CliSrc.lean` from the syntax tree of `cli/main.py`: the
expression that names the output file (over `pathlib`'s stem / suffix rules, `Cm.Fs.stemSuffix`), the directory it is put
in, and the list of every call in the module that can create, change or remove a file. The theorems below say that the
output name *is* the model's `outName` (about which `outName_ne`, `isCmName_outName`, `writes_not_inputs`, … are proved),
that it is placed beside the input, and that the only file-system mutation in the module is `open(output_path, "w")`,
the only read `open(file_path, "r")`.
-/
namespace CmProps.C09
open Cm Cm.Cli Cm.Fs

/-- `file_path.stem + "_cm" + file_path.suffix` is the model's output name -/
theorem source_output_filename (name : Str) : CmGen.CliSrc.output_filename name = outName name :=
  outName_eq name

/-- the output is written into the input's own directory, under that name -/
theorem source_output_beside_input (parent name : Str) :
    CmGen.CliSrc.output_path parent name = (parent, outName name) := by
  unfold CmGen.CliSrc.output_path
  rw [source_output_filename]

/-- hence the file the tool writes is never the file it read (`outName_ne`) -/
theorem source_output_ne_input (parent name : Str) :
    CmGen.CliSrc.output_path parent name ≠ (parent, name) := by
  rw [source_output_beside_input]
  intro h
  exact outName_ne name (Prod.mk.inj h).2

/-- the only call in `cli/main.py` that can create, change or remove a file opens `output_path` for writing -/
theorem source_fs_mutations : CmGen.CliSrc.fs_mutations = ["open:w:output_path"] := rfl

/-- the only file opened for reading is the input -/
theorem source_fs_reads : CmGen.CliSrc.fs_reads = ["file_path"] := rfl

/-- the report writer (`cli/html_report.py`) has one file-system mutation: it opens its `output_path` for writing -/
theorem source_report_fs_mutations : CmGen.CliSrc.report_fs_mutations = ["open:w:output_path"] := rfl

/-- `main` calls it with the fixed-pair list only, so that path is the documented default, a bare file name: the report
    lands in the working directory -/
theorem source_report_path : CmGen.CliSrc.report_calls = ["1 positional"] ∧
    CmGen.CliSrc.report_default_path = "cm_colors_report.html" ∧
    ¬ (CmGen.CliSrc.report_default_path.toList.contains '/') := by
  refine ⟨rfl, rfl, ?_⟩
  decide

end CmProps.C09
