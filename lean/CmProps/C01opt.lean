import CmProofs.SourceOpt
import CmProofs.SourceDescent
import CmProps.C05tie
import CmProps.C10tie
import CmProps.C11tie
/-!
# C01 — the optimiser functions this property's theorems are about are the source's, as translated on this run

The equations of `CmProofs/SourceOpt.lean` and `SourceDescent.lean`, restated in this property's namespace.
-/
namespace CmProps.C01
open Cm Cm.SourceOpt
variable {α : Type} [Num α]

theorem source_strategies (O : Leaf α) (d : Descend α) (t bg : RGB) (large : Bool) (target minC : α) :
    CmGen.Opt.strategy_strict O (gdOf O d) t bg large target minC = strategyStrict O d t bg target minC ∧
    CmGen.Opt.strategy_recursive O (gdOf O d) t bg large target minC = strategyRecursive O d t bg target minC ∧
    CmGen.Opt.strategy_relaxed O (gdOf O d) t bg large target minC = strategyRelaxed O d t bg target minC :=
  ⟨source_strategy_strict O d t bg large target minC, source_strategy_recursive O d t bg large target minC,
   source_strategy_relaxed O d t bg large target minC⟩

/-- `check_and_fix_contrast`, from the point where both colours are parsed to its `return` (threshold table, the shortcut
    for pairs that already pass, the dispatch on `mode`, what is returned), is the model's `checkAndFix` -/
theorem source_check_and_fix (O : Leaf α) (d : Descend α) (t bg : RGB) (large : Bool) (mode : Int) (premium : Bool) :
    CmGen.Opt.check_and_fix_contrast_core O (gdOf O d) t bg large mode premium = checkAndFix O d t bg large mode premium :=
  Cm.SourceOpt.source_check_and_fix O d t bg large mode premium

/-- the whole of `optimisation.py` after parsing, with the source's own `gradient_descent_oklch` (default `max_iter`) as
    the descent phase, is the model's `checkAndFix` with the model's descent: nothing between the parsed pair and the
    returned `(colour, success)` is left to correspondence alone -/
theorem source_pipeline {α : Type} [NumT α] (O : Leaf α) (t bg : RGB) (large : Bool) (mode : Int) (premium : Bool) :
    CmGen.Opt.check_and_fix_contrast_core O (fun t bg thr target lg => CmGen.Opt.gradient_descent_oklch O t bg thr target lg 50)
        t bg large mode premium = checkAndFix O (descendImpl O) t bg large mode premium := by
  have h : (fun t bg thr target lg => CmGen.Opt.gradient_descent_oklch O t bg thr target lg 50) = gdOf O (descendImpl O) := by
    funext t bg thr target lg; exact Cm.SourceOpt.source_gradient_descent O t bg thr target lg
  rw [h]; exact Cm.SourceOpt.source_check_and_fix O (descendImpl O) t bg large mode premium

/-- the leaf record `optimisation.py` actually imports, assembled from the translated numeric functions -/
def sourceLeaf {α : Type} [NumT α] (inf : α) : Leaf α :=
  { contrast := CmGen.Leaves.calculate_contrast_ratio, deltaE := CmGen.Leaves.calculate_delta_e_2000,
    toOklch := CmGen.Leaves.rgb_to_oklch_safe, ofOklch := CmGen.Leaves.oklch_to_rgb_safe,
    validRgb := CmGen.Leaves.is_valid_rgb, inf := inf }

theorem source_leaf {α : Type} [NumT α] (inf : α) : sourceLeaf inf = libLeaf inf := by
  have h1 : (CmGen.Leaves.calculate_contrast_ratio : RGB → RGB → α) = contrastRatio := by
    funext t b; exact CmProps.C05.source_contrast_ratio t b
  have h2 : (CmGen.Leaves.calculate_delta_e_2000 : RGB → RGB → α) = deltaE2000 := by
    funext c d; exact CmProps.C11.source_delta_e_2000 c d
  have h3 : (CmGen.Leaves.rgb_to_oklch_safe : RGB → α × α × α) = rgbToOklchSafe := by
    funext c; exact CmProps.C10.source_rgb_to_oklch_safe c
  have h4 : (CmGen.Leaves.oklch_to_rgb_safe : α × α × α → RGB) = oklchToRgbSafe := by
    funext t; exact CmProps.C10.source_oklch_to_rgb_safe t
  have h5 : CmGen.Leaves.is_valid_rgb = validRgb := by
    funext c; exact CmProps.C10.source_is_valid_rgb c
  simp only [sourceLeaf, libLeaf, h1, h2, h3, h4, h5]

/-- the function the correspondence harness runs bit-for-bit against CPython
    (`checkAndFixF`: Float carrier, library leaves, the real descent loop) is, definition by definition, the image of
    the source as translated on this run - numeric leaves, `_safe` wrappers, searches, strategies and dispatch -/
theorem source_is_executed_model (t bg : RGB) (large : Bool) (mode : Int) (premium : Bool) :
    CmGen.Opt.check_and_fix_contrast_core (sourceLeaf floatInf)
        (fun t bg thr target lg => CmGen.Opt.gradient_descent_oklch (sourceLeaf floatInf) t bg thr target lg 50)
        t bg large mode premium = checkAndFixF t bg large mode premium := by
  rw [source_leaf]; exact source_pipeline floatLeaf t bg large mode premium

end CmProps.C01
