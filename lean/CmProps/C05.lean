import CmProofs.WcagReal
import CmProps.C05cert -- so that importing this module alone brings in the certified form of the property
/-!
# C05 — WCAG relative luminance, contrast ratio and levels (model at ℝ)

All statements are about the generic model of `CmModel/Wcag.lean` instantiated at the real-number
carrier `Cm.realNum`.
-/
namespace CmProps.C05
open Cm

local notation "lumR" => @Cm.luminance ℝ Cm.realNum
local notation "ratioR" => @Cm.contrastRatio ℝ Cm.realNum
local notation "levelR" => @Cm.contrastLevel ℝ Cm.realNum.toNum

/-- the validity hypothesis used below is satisfiable, holds of black and white (the extremal statements are not
vacuous) and is a real restriction -/
example : validRgb (18, 52, 86) = true := by decide

example : validRgb (0, 0, 0) = true ∧ validRgb (255, 255, 255) = true := by decide

example : validRgb (256, 0, 0) = false ∧ validRgb (0, -1, 0) = false := by decide

/-- the relative luminance of a valid colour lies in `[0, 1]` -/
theorem lum_range (c : RGB) (h : validRgb c = true) : 0 ≤ lumR c ∧ lumR c ≤ 1 :=
  ⟨luminance_nonneg h, luminance_le_one h⟩

theorem lum_black : lumR (0, 0, 0) = 0 := luminance_black

theorem lum_white : lumR (255, 255, 255) = 1 := luminance_white

/-- among valid colours only black has luminance `0` -/
theorem lum_eq_zero_iff (c : RGB) (h : validRgb c = true) : lumR c = 0 ↔ c = (0, 0, 0) := by
  rw [← luminance_black, eq_comm, luminance_strictMono.eq_iff_of_le ((validRgb_iff_Icc c).1 h).1,
    eq_comm]

/-- among valid colours only white has luminance `1` -/
theorem lum_eq_one_iff (c : RGB) (h : validRgb c = true) : lumR c = 1 ↔ c = (255, 255, 255) := by
  rw [← luminance_white, luminance_strictMono.eq_iff_of_le ((validRgb_iff_Icc c).1 h).2]

/-- raising one channel raises the luminance (true of all integers: the validity hypotheses are not used, here and
in the next two) -/
theorem lum_strictMono_r (r r' g b : Int) (_h : validRgb (r, g, b) = true)
    (_h' : validRgb (r', g, b) = true) (hlt : r < r') : lumR (r, g, b) < lumR (r', g, b) :=
  luminance_strictMono (Prod.mk_lt_mk_iff_left.2 hlt)

theorem lum_strictMono_g (r g g' b : Int) (_h : validRgb (r, g, b) = true)
    (_h' : validRgb (r, g', b) = true) (hlt : g < g') : lumR (r, g, b) < lumR (r, g', b) :=
  luminance_strictMono (Prod.mk_lt_mk_iff_right.2 (Prod.mk_lt_mk_iff_left.2 hlt))

theorem lum_strictMono_b (r g b b' : Int) (_h : validRgb (r, g, b) = true)
    (_h' : validRgb (r, g, b') = true) (hlt : b < b') : lumR (r, g, b) < lumR (r, g, b') :=
  luminance_strictMono (Prod.mk_lt_mk_iff_right.2 (Prod.mk_lt_mk_iff_right.2 hlt))

example : lumR (10, 20, 30) < lumR (11, 20, 30) :=
  lum_strictMono_r 10 11 20 30 (by decide) (by decide) (by decide)

/-- the contrast ratio does not depend on which colour is text and which is background -/
theorem ratio_symm (a b : RGB) : ratioR a b = ratioR b a := by
  rw [contrastRatio_real, contrastRatio_real, max_comm, min_comm]

/-- the contrast ratio of two valid colours lies in `[1, 21]` -/
theorem ratio_range (a b : RGB) (ha : validRgb a = true) (hb : validRgb b = true) :
    1 ≤ ratioR a b ∧ ratioR a b ≤ 21 := by
  rw [contrastRatio_real]
  exact ratio_bounds (le_min (luminance_nonneg ha) (luminance_nonneg hb)) min_le_max
    (max_le (luminance_le_one ha) (luminance_le_one hb))

/-- a valid colour has contrast ratio `1` against itself -/
theorem ratio_self (a : RGB) (ha : validRgb a = true) : ratioR a a = 1 := by
  rw [contrastRatio_real, max_self, min_self]
  exact div_self (ratio_den_pos (luminance_nonneg ha)).ne'

/-- the maximal ratio `21` is attained exactly by black on white and white on black -/
theorem ratio_eq_21_iff (a b : RGB) (ha : validRgb a = true) (hb : validRgb b = true) :
    ratioR a b = 21 ↔
      (a = (0, 0, 0) ∧ b = (255, 255, 255)) ∨ (a = (255, 255, 255) ∧ b = (0, 0, 0)) := by
  have a0 := luminance_nonneg ha
  have a1 := luminance_le_one ha
  have b0 := luminance_nonneg hb
  have b1 := luminance_le_one hb
  rw [contrastRatio_real, ratio_eq_21 (le_min a0 b0) (max_le a1 b1),
    ← lum_eq_zero_iff a ha, ← lum_eq_zero_iff b hb, ← lum_eq_one_iff a ha, ← lum_eq_one_iff b hb]
  constructor
  · rintro ⟨hmin, hmax⟩
    rcases le_total (lumR a) (lumR b) with hab | hab
    · rw [min_eq_left hab] at hmin; rw [max_eq_right hab] at hmax
      exact Or.inl ⟨hmin, hmax⟩
    · rw [min_eq_right hab] at hmin; rw [max_eq_left hab] at hmax
      exact Or.inr ⟨hmax, hmin⟩
  · rintro (⟨h0, h1⟩ | ⟨h1, h0⟩)
    · rw [h0, h1]; norm_num
    · rw [h0, h1]; norm_num

/-- WCAG's `0.03928` and sRGB's `0.04045` select the same branch on every 8-bit channel value (on every
integer in fact: the range hypotheses are not used) -/
theorem lin_threshold_immaterial : ∀ v : Int, 0 ≤ v → v ≤ 255 →
    (((v : ℝ) / 255 ≤ 0.03928) ↔ ((v : ℝ) / 255 ≤ 0.04045)) := fun v _ _ => by
  rw [chan_le_cut, chan_le_iff_floor (n := 10) (by rw [Int.floor_eq_iff]; norm_num)]

/-- the sRGB threshold cuts the 8-bit channel values between `10` and `11` (and so does WCAG's, by the theorem above) -/
theorem lin_threshold_cut (v : Int) : ((v : ℝ) / 255 ≤ 0.04045) ↔ v ≤ 10 := chan_le_cut v

/-- complete characterisation of `get_contrast_level` at ℝ (thresholds inclusive) -/
theorem level_iff (r : ℝ) (large : Bool) :
    (levelR r large = .AAA ↔ (if large then (4.5 : ℝ) else 7) ≤ r) ∧
    (levelR r large = .AA ↔
      (if large then (3 : ℝ) else 4.5) ≤ r ∧ r < (if large then (4.5 : ℝ) else 7)) ∧
    (levelR r large = .FAIL ↔ r < (if large then (3 : ℝ) else 4.5)) := by
  rw [contrastLevel_real]
  exact threshold_iff (by cases large <;> norm_num)

theorem level_AAA_iff (r : ℝ) (large : Bool) :
    levelR r large = .AAA ↔ (if large then (4.5 : ℝ) else 7) ≤ r := (level_iff r large).1

theorem level_AA_iff (r : ℝ) (large : Bool) :
    levelR r large = .AA ↔
      (if large then (3 : ℝ) else 4.5) ≤ r ∧ r < (if large then (4.5 : ℝ) else 7) := (level_iff r large).2.1

theorem level_FAIL_iff (r : ℝ) (large : Bool) :
    levelR r large = .FAIL ↔ r < (if large then (3 : ℝ) else 4.5) := (level_iff r large).2.2

/-- the thresholds themselves are included: exactly `7` is `AAA`, exactly `4.5` is `AA` -/
example : levelR 7 false = .AAA ∧ levelR 4.5 false = .AA ∧ levelR 4.5 true = .AAA ∧
    levelR 3 true = .AA := by
  refine ⟨(level_AAA_iff _ _).2 ?_, (level_AA_iff _ _).2 ?_, (level_AAA_iff _ _).2 ?_,
    (level_AA_iff _ _).2 ?_⟩ <;> norm_num

/-- the labels `ColorPair.is_readable` returns for the three levels -/
theorem label_of_level : Level.label .AAA = "Very Readable" ∧ Level.label .AA = "Readable" ∧
    Level.label .FAIL = "Not Readable" := ⟨rfl, rfl, rfl⟩

end CmProps.C05
