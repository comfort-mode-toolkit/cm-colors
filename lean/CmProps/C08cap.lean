import CmProps.C08cli
import CmProps.C18main
/-!
# C08 — the accounting property, stated about the image of the source

`C08cli.lean` proves `run_partition` for the model's `Cm.Fs.run`; `C18main.lean` proves that the per-file loop of `main`, as
translated from `cli/main.py`, is `Cm.Fs.run`. Hence, about the source as translated: the detail lists have exactly as many
entries as the counters say, and every rule with a text colour is counted in exactly one of the three categories whenever no
file was reported as failing.
Not composed here: the translated loop calls `process_nodes_recursive` as the model's `Cm.Cli.processTop`; that this is what the
translated rewriter computes is `source_process_top_prepass` (`C08rulestop.lean`; error states up to `onError`).
-/
namespace CmProps.C08
open Cm Cm.Cli Cm.Fs

theorem source_run_partition (env : CliEnv) (cfg : Cfg) (files : List (Str × FileIn)) :
    let r := CmGen.CliMain.main_run env cfg files
    r.st.failedDetails.length = r.st.failed ∧ r.st.fixedDetails.length = r.st.tuned ∧
    r.st.accessible + r.st.tuned + r.st.failed ≤ (files.map fileCount).sum ∧
    (r.errors = [] → r.st.accessible + r.st.tuned + r.st.failed = (files.map fileCount).sum) := by
  rw [CmProps.C18.source_run]
  exact run_partition env cfg files

end CmProps.C08
