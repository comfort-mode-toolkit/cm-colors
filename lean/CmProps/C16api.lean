import CmProps.C16
import CmProps.C01api
/-!
# C16 at the API
-/
namespace CmProps.C16
open Cm Cm.Parse Cm.FmtRt CmProps.C01

/-- whenever `make_readable(mode=1)` succeeds, `make_readable(mode=2)` returns the identical value
    with success -/
theorem makeReadable_mode2_of_mode1 {α : Type} [NumT α] (hα : ByteExact α) (E : PEnv)
    (hf : AsciiFaithful E.cls) (hk : keysLower E.named = true) (O : Leaf α) (d : Descend α)
    (p : ColorPair α) (very : Bool) (t b : RGB) (ht : p.text.rgb? = some t) (hb : p.bg.rgb? = some b)
    (hv : validRgb (checkAndFix O d t b p.large 1 very).1 = true)
    (hs : (checkAndFix O d t b p.large 1 very).2 = true) :
    p.makeReadable E O d 2 very = p.makeReadable E O d 1 very := by
  have h12 := mode2_of_mode1 O d t b p.large very hs
  have hv2 : validRgb (checkAndFix O d t b p.large 2 very).1 = true := by rw [h12]; exact hv
  rw [CmProps.C06.makeReadable_returns_formatted hα E hf hk O d p 2 very t b ht hb hv2,
    CmProps.C06.makeReadable_returns_formatted hα E hf hk O d p 1 very t b ht hb hv, h12]

/-- whenever a very_readable request succeeds through `make_readable`, so does the ordinary request
    for the same pair, mode and text size -/
theorem makeReadable_ordinary_of_very {α : Type} [NumT α] [LawfulNumOrd α] [LawfulLit α]
    (hα : ByteExact α) (E : PEnv) (hf : AsciiFaithful E.cls) (hk : keysLower E.named = true)
    (O : Leaf α) (d : Descend α) (p : ColorPair α) (mode : Int) (t b : RGB)
    (ht : p.text.rgb? = some t) (hb : p.bg.rgb? = some b)
    (hv1 : validRgb (checkAndFix O d t b p.large mode true).1 = true)
    (hv0 : validRgb (checkAndFix O d t b p.large mode false).1 = true)
    (out : OutVal α) (h : p.makeReadable E O d mode true = some (out, true)) :
    ∃ out', p.makeReadable E O d mode false = some (out', true) := by
  rw [CmProps.C06.makeReadable_returns_formatted hα E hf hk O d p mode true t b ht hb hv1] at h
  have hs : (checkAndFix O d t b p.large mode true).2 = true := (Prod.mk.inj (Option.some.inj h)).2
  have h0 := checkAndFix_ordinary_of_very_readable O d t b p.large mode hs
  exact ⟨formatColor (checkAndFix O d t b p.large mode false).1 p.text.fmt, by
    rw [CmProps.C06.makeReadable_returns_formatted hα E hf hk O d p mode false t b ht hb hv0, h0]⟩

end CmProps.C16
