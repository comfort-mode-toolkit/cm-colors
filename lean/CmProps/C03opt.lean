import CmProofs.SourceOpt
/-!
# C03 — the optimiser functions this property's theorems are about are the source's, as translated on this run

The equations of `CmProofs/SourceOpt.lean`, restated in this property's namespace.
-/
namespace CmProps.C03
open Cm Cm.SourceOpt
variable {α : Type} [Num α]

/-- `binary_search_lightness` is the model's `binarySearch` (its `large_text` argument is ignored) -/
theorem source_binary_search (O : Leaf α) (t bg : RGB) (thr target : α) (large : Bool) :
    CmGen.Opt.binary_search_lightness O t bg thr target large = binarySearch O t bg thr target :=
  Cm.SourceOpt.source_binary_search O t bg thr target large

/-- `generate_accessible_color` (all optional arguments given) is the model's `genAccessible`, for any schedule -/
theorem source_generate_accessible_color (O : Leaf α) (d : Descend α) (t bg : RGB) (large : Bool) (target minC : α) (seq : List α) :
    CmGen.Opt.generate_accessible_color O (gdOf O d) t bg large target minC seq = genAccessible O d t bg target minC seq :=
  Cm.SourceOpt.source_generate_accessible_color O d t bg large target minC seq

end CmProps.C03
