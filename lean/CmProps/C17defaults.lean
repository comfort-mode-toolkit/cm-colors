import CmGen.Defaults
/-!
# C17 / C12 / C13 — what a caller gets when he leaves an argument out (regenerated from the `def` lines on this run)

The statement-level translators use parameter defaults only to resolve calls *between* translated functions. The defaults
of the public entry points themselves are read by `harness/translate/defaults.py` and pinned here: `show` and `save_report`
are off unless asked (C17); the single-pair and the bulk API agree on `mode = 1`, `very_readable = False` (C12: the bulk
call with defaults is the map of the single-pair call with defaults) and text is not large unless said; a colour has no
background context and the parser no background unless given (C13: white is used only then).
-/
namespace CmProps.C17

theorem source_api_defaults : CmGen.Defaults.api_defaults =
    [("Color.__init__", "color_input", "<required>"),
     ("Color.__init__", "background_context", "None"),
     ("ColorPair.__init__", "text_color", "<required>"),
     ("ColorPair.__init__", "bg_color", "<required>"),
     ("ColorPair.__init__", "large_text", "False"),
     ("ColorPair.make_readable", "mode", "1"),
     ("ColorPair.make_readable", "very_readable", "False"),
     ("ColorPair.make_readable", "show", "False"),
     ("ColorPair.make_readable", "save_report", "False"),
     ("make_readable_bulk", "pairs", "<required>"),
     ("make_readable_bulk", "mode", "1"),
     ("make_readable_bulk", "very_readable", "False"),
     ("make_readable_bulk", "save_report", "False"),
     ("parse_color_to_rgb", "color", "<required>"),
     ("parse_color_to_rgb", "background", "None"),
     ("check_and_fix_contrast", "text", "<required>"),
     ("check_and_fix_contrast", "bg", "<required>"),
     ("check_and_fix_contrast", "large", "False"),
     ("check_and_fix_contrast", "mode", "1"),
     ("check_and_fix_contrast", "premium", "False"),
     ("get_wcag_level", "text_rgb", "<required>"),
     ("get_wcag_level", "bg_rgb", "<required>"),
     ("get_wcag_level", "large", "False"),
     ("get_contrast_level", "contrast_ratio", "<required>"),
     ("get_contrast_level", "large", "False")] := rfl

/-- the switches that produce output or files are off by default, in both APIs -/
theorem source_switches_default_off (f p : String) (hp : p = "show" ∨ p = "save_report") (d : String)
    (h : (f, p, d) ∈ CmGen.Defaults.api_defaults) : d = "False" :=
  (by decide +kernel : ∀ r ∈ CmGen.Defaults.api_defaults,
    r.2.1 = "show" ∨ r.2.1 = "save_report" → r.2.2 = "False") _ h hp

end CmProps.C17
