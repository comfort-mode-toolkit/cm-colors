import CmModel.Parser
import CmGen.Leaves
/-!
# C13 — the blend of `rgba_to_rgb`, as translated from the source on this run, is the model's
-/
namespace CmProps.C13
open Cm Cm.Parse
variable {α : Type} [NumT α]

/-- on validated input (`rgba_to_rgb` raises otherwise) the model's compositing is the source's three blend lines -/
theorem source_rgba_blend (r g b : Int) (a : α) (bg : RGB)
    (hc : validRgb (r, g, b) = true) (ha : (Num.le (0.0 : α) a && Num.le a (1.0 : α)) = true) (hb : validRgb bg = true) :
    rgbaToRgb r g b a bg = .ok (CmGen.Leaves.rgba_to_rgb_core r g b a bg) := by
  obtain ⟨x, y, z⟩ := bg
  unfold rgbaToRgb CmGen.Leaves.rgba_to_rgb_core
  simp [hc, ha, hb]

/-- two of the three hypotheses, on the colours of the demonstration -/
example : validRgb (119, 119, 119) = true ∧ validRgb (255, 255, 255) = true := by decide

end CmProps.C13
