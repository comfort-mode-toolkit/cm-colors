import CmModel.Parser
import CmGen.ConvStr
import CmProofs.Logic
/-!
# C07 — the input parsing of `hsl_to_rgb`, as translated from the source on this run, is the model's

`harness/translate/convstr.py` translates `conversions.hsl_to_rgb` twice, once per kind of argument the parser passes
(the `isinstance` dispatch is decided by the image type of the parameter, rules T1/T2 of the translator's docstring):
* `hsl_to_rgb_string`   — `hsl_color : Str`: lower/strip, the `hsl(` … `)` test, the two `replace`, the
  `re.split(r"\s+", …)` + drop-empties pair, `len(parts) < 3`, the three helper calls, the range check;
* `hsl_to_rgb_sequence` — `hsl_color : PyVal α × PyVal α × PyVal α` (a tuple or list of three arbitrary Python values):
  `_parse_hue(str(raw_h))` and `_parse_hsl_percentage_or_decimal(str(raw_s|raw_l))` become a match on `PyVal.strOf`,
  whose number case is a *generated* image of the helper's body on the repr of a float (`parse_hue__of_repr`, …).
The arithmetic after the range check (from `if s == 0:` on) is the leaf `hslToRgbCore h s l`: that part of the
function is translated by `translate/leaves.py` and tied by `C06tie.source_hsl_to_rgb_core`.
The helpers `_parse_hue` / `_parse_hsl_percentage_or_decimal` on a `str` appear as the model's `parseHue` / `pctOrDec`
(tied to their source by `C07tie`). The final `else: raise TypeError` of the dispatch is reached by neither kind of
argument, hence by neither image (the model's `parseColor` never calls `hsl_to_rgb` with anything else).
-/
namespace CmProps.C07
open Cm Cm.Parse
variable {α : Type} [Num α]

/-- `hsl_to_rgb((h, s, l))` for a 3-sequence of arbitrary Python values -/
theorem source_hsl_to_rgb_sequence (E : PEnv) (h s l : PyVal α) :
    CmGen.ConvStr.hsl_to_rgb_sequence E (h, s, l) = hslSeqToRgb E h s l := by
  unfold CmGen.ConvStr.hsl_to_rgb_sequence hslSeqToRgb hslFinish hslInRange
    CmGen.ConvStr.parse_hue__of_repr CmGen.ConvStr.parse_hsl_percentage_or_decimal__of_repr
  simp only [ne_eq, not_true_eq_false, decide_false, Bool.false_eq_true, if_false, ite_bnot]
  cases h.strOf <;> rfl

set_option maxHeartbeats 40000 in -- (a mismatch is then reported quickly instead of after a long unfolding of string functions)
/-- `hsl_to_rgb("hsl(…)")` -/
theorem source_hsl_to_rgb_string (E : PEnv) (s : Str) :
    CmGen.ConvStr.hsl_to_rgb_string (α := α) E s = hslStrToRgb (α := α) E s := by
  unfold CmGen.ConvStr.hsl_to_rgb_string hslStrToRgb hslFinish hslInRange
  simp only [ite_bnot]
  split
  · rfl
  · generalize Str.splitWs _ _ = parts
    rcases parts with _ | ⟨p0, _ | ⟨p1, _ | ⟨p2, t⟩⟩⟩ <;> rfl

end CmProps.C07
