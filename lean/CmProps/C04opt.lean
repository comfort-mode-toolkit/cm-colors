import CmProofs.SourceOpt
import CmProofs.SourceDescent
/-!
# C04 — the optimiser functions this property's theorems are about are the source's, as translated on this run

The equations of `CmProofs/SourceOpt.lean` and `SourceDescent.lean`, restated in this property's namespace.
-/
namespace CmProps.C04
open Cm Cm.SourceOpt
variable {α : Type} [Num α]

/-- `binary_search_lightness` is the model's `binarySearch` (its `large_text` argument is ignored) -/
theorem source_binary_search (O : Leaf α) (t bg : RGB) (thr target : α) (large : Bool) :
    CmGen.Opt.binary_search_lightness O t bg thr target large = binarySearch O t bg thr target :=
  Cm.SourceOpt.source_binary_search O t bg thr target large

/-- `generate_accessible_color` (all optional arguments given) is the model's `genAccessible`, for any schedule -/
theorem source_generate_accessible_color (O : Leaf α) (d : Descend α) (t bg : RGB) (large : Bool) (target minC : α) (seq : List α) :
    CmGen.Opt.generate_accessible_color O (gdOf O d) t bg large target minC seq = genAccessible O d t bg target minC seq :=
  Cm.SourceOpt.source_generate_accessible_color O d t bg large target minC seq

theorem source_strategies (O : Leaf α) (d : Descend α) (t bg : RGB) (large : Bool) (target minC : α) :
    CmGen.Opt.strategy_strict O (gdOf O d) t bg large target minC = strategyStrict O d t bg target minC ∧
    CmGen.Opt.strategy_recursive O (gdOf O d) t bg large target minC = strategyRecursive O d t bg target minC ∧
    CmGen.Opt.strategy_relaxed O (gdOf O d) t bg large target minC = strategyRelaxed O d t bg target minC :=
  ⟨source_strategy_strict O d t bg large target minC, source_strategy_recursive O d t bg large target minC,
   source_strategy_relaxed O d t bg large target minC⟩

/-- `gradient_descent_oklch` (nested cost function, central-difference gradient, the adaptive-rate loop with its early `break`,
    the final validity and tolerance test), called with its default `max_iter`, is the descent phase of the model -/
theorem source_gradient_descent {α : Type} [NumT α] (O : Leaf α) (t bg : RGB) (thr target : α) (large : Bool) :
    CmGen.Opt.gradient_descent_oklch O t bg thr target large 50 = gradientDescent O (descendImpl O) t bg thr target :=
  Cm.SourceOpt.source_gradient_descent O t bg thr target large

end CmProps.C04
