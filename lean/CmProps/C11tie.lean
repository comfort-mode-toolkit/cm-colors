import CmModel.Lab
import CmGen.Leaves
/-!
# C11 — CIE Lab and CIEDE2000 of `conversions.py` / `color_metrics.py`, as translated on this run, are the model's
-/
namespace CmProps.C11
open Cm
variable {α : Type} [NumT α]

theorem source_rgb_to_xyz (c : RGB) : CmGen.Leaves.rgb_to_xyz (α := α) c = rgbToXyz c := rfl
theorem source_lab_transform (t : α) : CmGen.Leaves.xyz_to_lab__lab_transform t = labF t := rfl
theorem source_xyz_to_lab (p : α × α × α) : CmGen.Leaves.xyz_to_lab p = xyzToLab p := rfl
theorem source_rgb_to_lab (c : RGB) : CmGen.Leaves.rgb_to_lab (α := α) c = rgbToLab c := by
  unfold CmGen.Leaves.rgb_to_lab rgbToLab
  rfl

/-- `calculate_delta_e_2000`: all 40-odd assignments of the source, in order, are the model's formula -/
theorem source_delta_e_2000 (c d : RGB) : CmGen.Leaves.calculate_delta_e_2000 (α := α) c d = deltaE2000 c d := by
  unfold CmGen.Leaves.calculate_delta_e_2000 deltaE2000
  split
  · rfl
  · rw [source_rgb_to_lab, source_rgb_to_lab]
    unfold deltaE2000Lab
    rcases rgbToLab (α := α) c with ⟨L1, a1, b1⟩
    rcases rgbToLab (α := α) d with ⟨L2, a2, b2⟩
    -- the `let`s and the model's `sq`, `pow7`, `radians` opened first: `rfl` alone unifies them slowly
    dsimp only [sq, pow7, radians]
    rfl

end CmProps.C11
