import CmGen.EffectSig
/-!
# C17 — where the core modules can print, log, warn or touch the file system (regenerated from the source on this run)

`harness/translate/effectsig.py` scans every module of `cm_colors.core` for calls that write to stdout / stderr (print, the
logging and warnings modules, `rich` consoles and progress bars, `click.echo`, `sys.stdout.write` …) or create, change or
remove a file, and lists them with the function they sit in. The theorem pins that table: output can only come from
`ColorPair.make_readable` and `make_readable_bulk` — the three `print`s and the calls to the two visualisers whose guards
(`show` / `save_report`) and order `C17api.lean` / `C17bulk.lean` prove to be the model's `mrEffects` / `bulkEffects` — and
from the two visualisers themselves (`to_console` prints twice; `to_html_bulk` opens `output_path` for writing, nothing else).
No other function of the library — the parser, the converters, the optimiser — contains an output or file-system call.
-/
namespace CmProps.C17

theorem source_effect_sites : CmGen.EffectSig.effect_sites =
    [("cm_colors.py", "make_readable_bulk", "visualiser:to_html_bulk"),
     ("cm_colors.py", "make_readable_bulk", "print"),
     ("colors.py", "ColorPair.make_readable", "print"),
     ("colors.py", "ColorPair.make_readable", "visualiser:to_console"),
     ("colors.py", "ColorPair.make_readable", "visualiser:to_html_bulk"),
     ("colors.py", "ColorPair.make_readable", "print"),
     ("visualiser.py", "to_console", "console.print"),
     ("visualiser.py", "to_console", "console.print"),
     ("visualiser.py", "to_html_bulk", "open:w:output_path")] := rfl

/-- in particular: nothing outside the two API entry points and the two visualisers -/
theorem source_effects_confined (m f k : String) (h : (m, f, k) ∈ CmGen.EffectSig.effect_sites) :
    f = "make_readable_bulk" ∨ f = "ColorPair.make_readable" ∨ f = "to_console" ∨ f = "to_html_bulk" := by
  rw [source_effect_sites] at h
  simp only [List.mem_cons, Prod.mk.injEq, List.mem_nil_iff, or_false] at h
  rcases h with h | h | h | h | h | h | h | h | h <;> simp [h.2.1]

end CmProps.C17
