import CmProps.C13
import CmProps.C07
/-!
# C13 — the numeric side of compositing (exact carrier), restated from the parser theorems
-/
namespace CmProps.C13
open Cm Cm.Parse Cm.ParseSpec

/-- `rgba()` / RGBA tuples: each channel of the composite is within 1/2 of the exact source-over
    blend `a·f + (1−a)·b` over the supplied background -/
theorem rgba_blend {r g b : ℤ} {a : ℚ} {bg : RGB} (hv : validRgb (r, g, b) = true)
    (ha0 : 0 ≤ a) (ha1 : a ≤ 1) (hbg : validRgb bg = true) :
    ∃ R G B : ℤ, @rgbaToRgb ℚ ratNum r g b a bg = .ok (R, G, B) ∧
      |(R : ℚ) - (a * r + (1 - a) * bg.1)| ≤ 1 / 2 ∧ |(G : ℚ) - (a * g + (1 - a) * bg.2.1)| ≤ 1 / 2 ∧
      |(B : ℚ) - (a * b + (1 - a) * bg.2.2)| ≤ 1 / 2 :=
  CmProps.C07.rgba_composite hv ha0 ha1 hbg

/-- alpha 1 gives the colour itself -/
theorem alpha_one {r g b : ℤ} {bg : RGB} (hv : validRgb (r, g, b) = true) (hbg : validRgb bg = true) :
    @rgbaToRgb ℚ ratNum r g b 1 bg = .ok (r, g, b) := CmProps.C07.alpha_one hv hbg

/-- alpha 0 gives the background, exactly -/
theorem alpha_zero {r g b : ℤ} {bg : RGB} (hv : validRgb (r, g, b) = true) (hbg : validRgb bg = true) :
    @rgbaToRgb ℚ ratNum r g b 0 bg = .ok bg := CmProps.C07.alpha_zero hv hbg

/-- `hsla()`: every channel within 1.5 of `a·255·(CSS's HSL channel) + (1−a)·background`
    (white when no background is supplied) -/
theorem hsla_blend (H : ℚ) {s l a : ℚ} (bg : Option RGB) (hs0 : 0 ≤ s) (hs1 : s ≤ 1)
    (hl0 : 0 ≤ l) (hl1 : l ≤ 1) (ha0 : 0 ≤ a) (ha1 : a ≤ 1)
    (hbg : ∀ b, bg = some b → 0 ≤ b.1 ∧ 0 ≤ b.2.1 ∧ 0 ≤ b.2.2) :
    ∃ R G B : ℤ, @hslaFinish ℚ ratNum H s l a bg = .ok (R, G, B) ∧
      let k : RGB := bg.getD (255, 255, 255)
      |(R : ℚ) - (a * (255 * (css3Hsl H s l).1) + (1 - a) * k.1)| < 3 / 2 ∧
      |(G : ℚ) - (a * (255 * (css3Hsl H s l).2.1) + (1 - a) * k.2.1)| < 3 / 2 ∧
      |(B : ℚ) - (a * (255 * (css3Hsl H s l).2.2) + (1 - a) * k.2.2)| < 3 / 2 :=
  CmProps.C07.hsla_within H bg hs0 hs1 hl0 hl1 ha0 ha1 hbg

/-- the default background of the `rgba` path is white; a supplied one is used as given -/
theorem default_bg_white (b : RGB) (hb : validRgb b = true) :
    bgParsed none = .ok (255, 255, 255) ∧ bgParsed (some b) = .ok b := CmProps.C07.rgba_background b hb

end CmProps.C13
