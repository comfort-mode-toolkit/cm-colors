import CmProofs.CliTree
/-! # C18 — the pre-pass leaves the counters alone (the property's theorems: `C18cli.lean`) -/
namespace CmProps.C18
open Cm Cm.Cli

/-- the pre-pass only fills the custom-property table and the pre-parsed blocks: the counters stay 0 -/
theorem prePass_local (env : CliEnv) (nodes : List Node) :
    (prePass env nodes).accessible = 0 ∧ (prePass env nodes).tuned = 0 ∧ (prePass env nodes).failed = 0 := by
  unfold prePass
  suffices h : ∀ (ns : List Node) (i : Nat) (st : St),
      (prePass.go env ns i st).accessible = st.accessible ∧ (prePass.go env ns i st).tuned = st.tuned ∧
      (prePass.go env ns i st).failed = st.failed from h nodes 0 {}
  intro ns
  induction ns with
  | nil => intro i st; exact ⟨rfl, rfl, rfl⟩
  | cons n ns ih =>
    intro i st
    rw [prePass_go_cons]
    unfold preStep
    cases rootItems n <;> exact ih _ _

end CmProps.C18
