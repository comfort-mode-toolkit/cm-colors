import CmModel.Effects
/-!
# C17 — no output or files unless asked; previews and reports never change the result
-/
namespace CmProps.C17
open Cm Cm.Parse
variable {α : Type} [NumT α]

/-- without `show` and `save_report` nothing is printed and no file is written -/
theorem silent_default (valid : Bool) : mrEffects valid false false = [] := by
  cases valid <;> rfl

theorem silent_invalid (s r : Bool) : mrEffects false s r = [] := rfl

/-- the bulk API is silent unless a report is requested (and there is something to report) -/
theorem bulk_silent_default (n : Nat) : bulkEffects false n = [] := rfl
theorem bulk_silent_empty (s : Bool) : bulkEffects s 0 = [] := by cases s <;> rfl

/-- the returned `(colour, success)` does not depend on `show` / `save_report` -/
theorem result_indep (E : PEnv) (O : Leaf α) (d : Descend α) (p : ColorPair α) (mode : Int) (very : Bool)
    (s r s' r' : Bool) :
    (makeReadableFull E O d p mode very s r).1 = (makeReadableFull E O d p mode very s' r').1 := rfl

theorem result_plain (E : PEnv) (O : Leaf α) (d : Descend α) (p : ColorPair α) (mode : Int) (very : Bool)
    (s r : Bool) : (makeReadableFull E O d p mode very s r).1 = p.makeReadable E O d mode very := rfl

/-- the only file ever written by `make_readable` is the documented quick report -/
theorem writes_documented (valid s r : Bool) (f : String)
    (h : Effect.write f ∈ mrEffects valid s r) : f = "cm_colors_quick_report.html" := by
  cases valid <;> cases s <;> cases r <;> simp [mrEffects] at h <;> exact h

/-- the only file the bulk API writes is the documented bulk report -/
theorem bulk_writes_documented (s : Bool) (n : Nat) (f : String)
    (h : Effect.write f ∈ bulkEffects s n) : f = "cm_colors_bulk_report.html" := by
  unfold bulkEffects at h
  split at h <;> simp at h
  exact h

/-- a file is written only when `save_report` was passed -/
theorem write_only_if_asked (valid s : Bool) (f : String) : Effect.write f ∉ mrEffects valid s false := by
  cases valid <;> cases s <;> simp [mrEffects]

/-- the preview is handed `#rrggbb` strings for the original text and background colours, and for the
    tuned colour whenever the returned value can be re-read (which C06's round-trip theorems give) -/
theorem preview_args_hex (E : PEnv) (t b : RGB) (out : OutVal α) :
    (previewArgs E t b out).1 = fmtHex t ∧ (previewArgs E t b out).2.1 = fmtHex b ∧
    (∀ s, (previewArgs E t b out).2.2 = some s → ∃ c : RGB, s = fmtHex c) := by
  refine ⟨rfl, rfl, ?_⟩
  intro s hs
  unfold previewArgs at hs
  cases out with
  | tuple c => simp at hs; exact ⟨c, hs.symm⟩
  | text str =>
    simp only at hs
    split at hs
    · rename_i c _; simp at hs; exact ⟨c, hs.symm⟩
    · simp at hs
  | hsl h s' l =>
    simp only [Option.map_eq_some_iff] at hs
    obtain ⟨c, _, hc⟩ := hs
    exact ⟨c, hc.symm⟩

end CmProps.C17
