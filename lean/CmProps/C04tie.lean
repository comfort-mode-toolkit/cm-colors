import CmProofs.Schedules
import CmModel.Strategy
import CmModel.Descent
import CmGen.Leaves
/-!
# C04 — the tolerance schedules of `optimisation.py`, as read from the source on this run, are the model's;
hence the bounds the C04 theorems rest on hold of the lists as translated on this run.
-/
namespace CmProps.C04
open Cm
variable {α : Type} [NumT α]

theorem source_default_sequence : (CmGen.Leaves.default_sequence : List α) = defaultSchedule := rfl
theorem source_recursive_sequence : (CmGen.Leaves.recursive_sequence : List α) = stepSchedule := rfl
theorem source_relaxed_step_sequence : (CmGen.Leaves.relaxed_step_sequence : List α) = stepSchedule := rfl
theorem source_relaxed_sequence : (CmGen.Leaves.relaxed_sequence : List α) = relaxedSchedule := rfl

/-- every tolerance of the strict mode's list, as written in the source, is at most 5.0 -/
theorem source_default_sequence_le [LawfulLit α] :
    ∀ thr ∈ (CmGen.Leaves.default_sequence : List α), Num.le thr (5.0 : α) = true := by
  rw [source_default_sequence]; exact defaultSchedule_le

theorem source_step_sequences_le [LawfulLit α] :
    (∀ thr ∈ (CmGen.Leaves.recursive_sequence : List α), Num.le thr (3.0 : α) = true) ∧
    (∀ thr ∈ (CmGen.Leaves.relaxed_step_sequence : List α), Num.le thr (3.0 : α) = true) := by
  rw [source_recursive_sequence, source_relaxed_step_sequence]; exact ⟨stepSchedule_le, stepSchedule_le⟩

theorem source_relaxed_sequence_le [LawfulLit α] :
    ∀ thr ∈ (CmGen.Leaves.relaxed_sequence : List α), Num.le thr (15.0 : α) = true := by
  rw [source_relaxed_sequence]; exact relaxedSchedule_le

/-- the four loop bounds as written in the source (the theorems below rewrite with it: a changed bound is reported here) -/
theorem source_loop_bounds :
    CmGen.Leaves.recursive_iterations = 10 ∧ CmGen.Leaves.relaxed_iterations = 15 ∧
    CmGen.Leaves.binary_search_iterations = 20 ∧ CmGen.Leaves.descent_iterations = 50 := by decide

/-- `_strategy_recursive` runs the model's loop for the source's `max_iterations`; likewise the three below (mode 2's also
    substitutes the source's `relaxed_sequence` for its second option) -/
theorem source_recursive_iterations (O : Leaf α) (d : Descend α) (t bg : RGB) (target minC : α) :
    strategyRecursive O d t bg target minC = recursiveLoop O d bg target minC CmGen.Leaves.recursive_iterations t := by
  rw [source_loop_bounds.1]; rfl

theorem source_relaxed_iterations (O : Leaf α) (d : Descend α) (t bg : RGB) (target minC : α) :
    strategyRelaxed O d t bg target minC =
      (let rec_ := strategyRecursive O d t bg target minC
       if rec_.2 then (rec_.1, true) else
       let a := optALoop O d bg target minC CmGen.Leaves.relaxed_iterations t
       let bRgb := genAccessible O d t bg target minC CmGen.Leaves.relaxed_sequence
       let bOk := Num.ge (O.contrast bRgb bg) minC
       if a.2 && bOk then
         if Num.le (O.deltaE t a.1) (O.deltaE t bRgb) then (a.1, true) else (bRgb, true)
       else if a.2 then (a.1, true)
       else if bOk then (bRgb, true)
       else (rec_.1, false)) := by
  obtain ⟨_, hrelaxed, _, _⟩ := source_loop_bounds
  rw [hrelaxed]; rfl

theorem source_binary_search_iterations (O : Leaf α) (t bg : RGB) (thr target : α) :
    binarySearch O t bg thr target =
      (let (l, c, h) := O.toOklch t
       let (bl, _, _) := O.toOklch bg
       let up := searchUp l bl
       (bsLoop O t bg thr target c h up CmGen.Leaves.binary_search_iterations (bsInit O l up)).best) := by
  obtain ⟨_, _, hsearch, _⟩ := source_loop_bounds
  rw [hsearch]; rfl

theorem source_descent_iterations (O : Leaf α) (t bg : RGB) (thr target : α) :
    descendImpl O t bg thr target =
      (let (l, c, h) := O.toOklch t
       let fin := gdLoop O t bg thr target h CmGen.Leaves.descent_iterations 0 (l, c)
       O.ofOklch (fin.1, fin.2, h)) := by
  obtain ⟨_, _, _, hdescent⟩ := source_loop_bounds
  rw [hdescent]; rfl

end CmProps.C04
