import CmModel.Cli
/-! # C08 — the CLI model on an empty declaration list (the property's theorems: `C08cli.lean`, `C08var.lean`) -/
namespace CmProps.C08
open Cm Cm.Cli

theorem lastDecl_none_of_nil (n : Str) : lastDecl [] n = none := rfl

end CmProps.C08
