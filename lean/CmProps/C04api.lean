import CmProps.C04
import CmProps.C01api
/-!
# C04 at the API: in strict mode the colour the caller gets back reads as a colour within 5.0
-/
namespace CmProps.C04
open Cm Cm.Parse Cm.FmtRt CmProps.C01

/-- mode 0 through `make_readable`: the returned value reads back as the text colour itself or as a valid colour within
    CIEDE2000 5.0 of it -/
theorem makeReadable_strict_le_5 {α : Type} [NumT α] [LawfulNumOrd α] [LawfulLit α]
    (hα : ByteExact α) (hH : HslExact α) (E : PEnv)
    (hf : AsciiFaithful E.cls) (hk : keysLower E.named = true) (O : Leaf α) (d : Descend α)
    (p : ColorPair α) (very : Bool) (t b : RGB) (ht : p.text.rgb? = some t)
    (hb : p.bg.rgb? = some b) (hv : validRgb (checkAndFix O d t b p.large 0 very).1 = true)
    (bg' : Option RGB) :
    ∃ out ok c, p.makeReadable E O d 0 very = some (out, ok) ∧ readBack (α := α) E bg' out = some c ∧
      Step O (5.0 : α) t c := by
  obtain ⟨out, h, hr⟩ := makeReadable_reads_back hα hH E hf hk O d p 0 very t b ht hb hv bg'
  exact ⟨out, _, _, h, hr, checkAndFix_strict_le_5 O d t b p.large very⟩

end CmProps.C04
