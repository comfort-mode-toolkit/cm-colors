import CmModel.Strategy
import CmGen.Leaves
/-!
# C01 — the threshold table of `check_and_fix_contrast`, as read from the source on this run

(the table decides which ratio the success flag is judged against)
-/
namespace CmProps.C01
open Cm
variable {α : Type} [NumT α]

/-- `CmGen.Leaves.thresholds` is the `if premium:` statement of `check_and_fix_contrast` read out on its own by the translator
    (inside `check_and_fix_contrast_core` it is covered by `source_check_and_fix`) -/
theorem source_thresholds (large premium : Bool) :
    (CmGen.Leaves.thresholds large premium : α × α) = Cm.thresholds large premium := by
  cases large <;> cases premium <;> rfl

end CmProps.C01
