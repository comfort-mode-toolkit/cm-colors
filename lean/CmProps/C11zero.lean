import CmProps.C11
import CmProofs.DeltaEZero
/-!
# C11 (converse) — CIEDE2000 is zero *exactly* for identical colours

`CmProps/C11.lean` has "identical ⇒ 0"; here the converse, for the model at `Cm.realNum`. The rotation term is strictly
inside `(-2, 2)`, so the quadratic form under the root is positive definite and `ΔE = 0` forces
`ΔL' = ΔC' = ΔH' = 0`; on Lab triples that gives `p = q`, on valid 8-bit colours `c₁ = c₂` because `rgbToLab` is
injective there.
-/
namespace CmProps.C11
open Cm Real

/-- the fraction `C̄'⁷ / (C̄'⁷ + 25⁷)` never reaches 1 -/
theorem RC_lt_two (p q : ℝ × ℝ × ℝ) : RCR (CmP p q) < 2 := RCR_lt_two (CmP_nonneg p q)

/-- the cross term of the formula can never cancel the two squares -/
theorem abs_RT_lt_two (p q : ℝ × ℝ × ℝ) : |RTR (CmP p q) (HmP p q)| < 2 :=
  abs_RTR_lt_two (CmP_nonneg p q) _

theorem quad_form_pos_def (x y r : ℝ) (hr : |r| < 2) (h : x ^ 2 + y ^ 2 + r * x * y = 0) :
    x = 0 ∧ y = 0 :=
  quad_eq_zero x y r hr h

/-- a zero colour difference forces the lightness, chroma and hue differences `ΔL'`, `ΔC'`, `ΔH'` to be zero -/
theorem dE_eq_zero_terms (p q : ℝ × ℝ × ℝ) (h : dE p q = 0) :
    dLP p q = 0 ∧ dCP p q = 0 ∧ dHP p q = 0 := by
  apply radicand_eq_zero_terms
  rw [← dE_sq, h]; norm_num

theorem dLP_eq_zero_iff (p q : ℝ × ℝ × ℝ) : dLP p q = 0 ↔ p.1 = q.1 :=
  sub_eq_zero.trans eq_comm

theorem dCP_eq_zero_iff (p q : ℝ × ℝ × ℝ) :
    dCP p q = 0 ↔ CP (Gpq p q) p = CP (Gpq p q) q :=
  sub_eq_zero.trans eq_comm

/-- the `a*` rescaling factor of the formula: `a ↦ a'` loses nothing -/
theorem one_add_G_pos (p q : ℝ × ℝ × ℝ) : 0 < 1 + Gpq p q := one_add_Gpq_pos p q

/-- the colour difference of two Lab colours is zero exactly when they are the same colour -/
theorem dE_lab_eq_zero_iff (p q : ℝ × ℝ × ℝ) : dE p q = 0 ↔ p = q := by
  constructor
  · intro h
    apply radicand_eq_zero_imp_eq
    rw [← dE_sq, h]; norm_num
  · rintro rfl
    exact dE_lab_self p

theorem dE_lab_pos_of_ne (p q : ℝ × ℝ × ℝ) (h : p ≠ q) : 0 < dE p q :=
  (dE_nonneg p q).lt_of_ne' (mt (dE_lab_eq_zero_iff p q).1 h)

/-- `lab_transform` is strictly increasing across its junction, so it loses no information -/
theorem lab_transform_strictMono : StrictMono (@labF ℝ realNum) := by
  intro x y hxy
  rw [labF_real, labF_real]
  exact labFR_strictMono hxy

/-- among valid 8-bit colours only white has its `L*` clamped at 100 (`Y/Yn ≥ 1`); this is the one
place where `xyz_to_lab` could have merged two colours -/
theorem clamp_only_white (c : RGB) (hv : validRgb c = true)
    (h : 1 ≤ ynR (lin ((c.1 : ℝ) / 255)) (lin ((c.2.1 : ℝ) / 255)) (lin ((c.2.2 : ℝ) / 255))) :
    c = (255, 255, 255) := by
  obtain ⟨⟨-, r1⟩, ⟨-, g1⟩, ⟨-, b1⟩⟩ := (validRgb_iff c).1 hv
  have lr := linChan_le_one r1
  have lg := linChan_le_one g1
  have lb := linChan_le_one b1
  simp only [← linChan_def, ynR] at h
  -- the weights sum to `1.0000001`, so each channel alone must make up for the other two at their maximum
  exact Prod.ext (eq_255_of_lin_gt r1 (by linarith only [h, lg, lb]))
    (Prod.ext (eq_255_of_lin_gt g1 (by linarith only [h, lr, lb]))
      (eq_255_of_lin_gt b1 (by linarith only [h, lr, lg])))

/-- two different valid 8-bit colours never get the same Lab coordinates -/
theorem rgbToLab_injective (c1 c2 : RGB) (h1 : validRgb c1 = true) (h2 : validRgb c2 = true)
    (h : @rgbToLab ℝ realNum c1 = @rgbToLab ℝ realNum c2) : c1 = c2 := by
  rw [rgbToLab_real, rgbToLab_real] at h
  obtain ⟨⟨r0, -⟩, ⟨g0, -⟩, ⟨b0, -⟩⟩ := (validRgb_iff c1).1 h1
  obtain ⟨⟨r0', -⟩, ⟨g0', -⟩, ⟨b0', -⟩⟩ := (validRgb_iff c2).1 h2
  rcases labOfLin_inj (linChan_nonneg r0) (linChan_nonneg g0) (linChan_nonneg b0) (linChan_nonneg r0')
    (linChan_nonneg g0') (linChan_nonneg b0') h with ⟨er, eg, eb⟩ | ⟨w1, w2⟩
  · exact Prod.ext (linChan_strictMono.injective er)
      (Prod.ext (linChan_strictMono.injective eg) (linChan_strictMono.injective eb))
  · simp only [linChan_def] at w1 w2
    rw [clamp_only_white c1 h1 w1, clamp_only_white c2 h2 w2]

/-- the colour difference of two valid 8-bit colours is zero exactly when they are the same colour -/
theorem dE_rgb_eq_zero_iff (c1 c2 : RGB) (h1 : validRgb c1 = true) (h2 : validRgb c2 = true) :
    dErgb c1 c2 = 0 ↔ c1 = c2 := by
  constructor
  · intro h
    rw [dE_rgb_eq_lab, dE_lab_eq_zero_iff] at h
    exact rgbToLab_injective c1 c2 h1 h2 h
  · rintro rfl
    exact dE_rgb_self c1

theorem dE_rgb_pos_of_ne (c1 c2 : RGB) (h1 : validRgb c1 = true) (h2 : validRgb c2 = true)
    (h : c1 ≠ c2) : 0 < dErgb c1 c2 :=
  (dE_rgb_nonneg c1 c2).lt_of_ne' (mt (dE_rgb_eq_zero_iff c1 c2 h1 h2).1 h)

example : ∃ r : ℝ, |r| < 2 := ⟨0, by norm_num⟩
example : validRgb ((0, 0, 0) : RGB) = true ∧ validRgb ((255, 255, 255) : RGB) = true ∧
    ((0, 0, 0) : RGB) ≠ (255, 255, 255) := by decide

end CmProps.C11
