import CmModel.ApiVocab
import CmGen.Api
/-!
# C05 — `ColorPair.is_readable`, as translated from the source on this run, is the model's `isReadable`

The image (`CmGen/Api.lean`, `harness/translate/api.py`) passes the two optional `rgb`s to `get_wcag_level` (a `None` would
raise `TypeError`) and walks the `if level == "AAA" … elif level == "AA" or level == "AA Large" …` chain on the level's
string; the theorem says no exception is possible and the answer is the model's `Level.label` of `wcagLevel`
(`get_wcag_level` itself is tied by `source_wcag_level` in `C05tie.lean`). The string literals of the chain and of the three
answers are generated from the source.
-/
namespace CmProps.C05
open Cm Cm.Parse
variable {α : Type} [NumT α]

private theorem label_chain (l : Level) :
    (if (l.toString == "AAA") = true then (Except.ok "Very Readable" : Except PyErr String)
     else if (l.toString == "AA" || l.toString == "AA Large") = true then Except.ok "Readable"
     else Except.ok "Not Readable") = Except.ok l.label := by
  cases l <;> rfl

/-- `ColorPair.is_readable`: never raises, and returns the model's label -/
theorem source_is_readable (p : ColorPair α) :
    CmGen.Api.ColorPair_is_readable p = .ok p.isReadable := by
  unfold CmGen.Api.ColorPair_is_readable ColorPair.isReadable CmGen.Api.ColorPair_is_valid CmGen.Api.Color_is_valid
    CmGen.Api.Color_rgb
  cases p.text.rgb? with
  | none => rfl
  | some t =>
    cases p.bg.rgb? with
    | none => rfl
    | some b => simp only [Option.isSome_some, Bool.and_self, Bool.not_true, Bool.false_eq_true, if_false, Api.withRgb,
        label_chain]

end CmProps.C05
