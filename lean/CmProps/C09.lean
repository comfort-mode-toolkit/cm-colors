import CmProofs.CliRule
/-! # C09 — `setDeclValue` keeps the length (the property's theorems: `C09cli.lean`) -/
namespace CmProps.C09
open Cm Cm.Cli

theorem setDeclValue_length (items : List Item) (i : Nat) (v : Str) :
    (setDeclValue items i v).length = items.length := Cm.Cli.setDeclValue_length' items i v

end CmProps.C09
