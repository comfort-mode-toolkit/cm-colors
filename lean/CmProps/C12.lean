import CmModel.Color
/-!
# C12 — the bulk API is exactly a map of the single-pair API, in order

`Bulk.run` is modelled as the loop it is (an accumulator fold over the input list); the theorems
relate it to a plain `map` of the per-entry function, for every carrier, oracle and list.
-/
namespace CmProps.C12
open Cm Cm.Parse
variable {α : Type} [NumT α]

/-- the loop computes exactly `map entry`, in order -/
theorem bulk_eq_map (E : PEnv) (O : Leaf α) (d : Descend α) (mode : Int) (very : Bool)
    (items : List (BulkItem α)) :
    Bulk.run E O d mode very items = items.map (Bulk.entry E O d mode very) := by
  unfold Bulk.run
  rw [List.foldl_flip_cons_eq_append, List.append_nil, List.reverse_reverse]

/-- one result per entry -/
theorem bulk_length (E : PEnv) (O : Leaf α) (d : Descend α) (mode : Int) (very : Bool)
    (items : List (BulkItem α)) : (Bulk.run E O d mode very items).length = items.length := by
  rw [bulk_eq_map]; simp

/-- position independence -/
theorem bulk_get (E : PEnv) (O : Leaf α) (d : Descend α) (mode : Int) (very : Bool)
    (items : List (BulkItem α)) (i : Nat) (h : i < items.length) :
    (Bulk.run E O d mode very items)[i]'(by rw [bulk_length]; exact h) =
      Bulk.entry E O d mode very items[i] := by
  simp [bulk_eq_map]

/-- entries do not disturb one another -/
theorem bulk_append (E : PEnv) (O : Leaf α) (d : Descend α) (mode : Int) (very : Bool)
    (xs ys : List (BulkItem α)) :
    Bulk.run E O d mode very (xs ++ ys) = Bulk.run E O d mode very xs ++ Bulk.run E O d mode very ys := by
  simp [bulk_eq_map]

/-- reordering the entries reorders the results and changes none of them -/
theorem bulk_perm (E : PEnv) (O : Leaf α) (d : Descend α) (mode : Int) (very : Bool)
    (xs ys : List (BulkItem α)) (h : xs.Perm ys) :
    (Bulk.run E O d mode very xs).Perm (Bulk.run E O d mode very ys) := by
  rw [bulk_eq_map, bulk_eq_map]; exact h.map _

/-- an entry that cannot be parsed comes back unchanged with the status `invalid color` -/
theorem entry_invalid (E : PEnv) (O : Leaf α) (d : Descend α) (mode : Int) (very : Bool) (it : BulkItem α)
    (h : (ColorPair.new E it.text it.bg it.large).isValid = false) :
    (Bulk.entry E O d mode very it).status = "invalid color" ∧
    (match (Bulk.entry E O d mode very it).colour with | .original => True | .tuned _ => False) := by
  unfold Bulk.entry
  simp [h]

/-- that status cannot be taken for a verdict: it is none of the three readability strings -/
theorem invalid_is_not_a_readability_claim :
    "invalid color" ≠ "readable" ∧ "invalid color" ≠ "very readable" ∧ "invalid color" ≠ "not readable" := by
  decide

/-- a valid entry returns exactly what `make_readable` returns for that entry alone -/
theorem entry_valid_colour (E : PEnv) (O : Leaf α) (d : Descend α) (mode : Int) (very : Bool) (it : BulkItem α)
    (h : (ColorPair.new E it.text it.bg it.large).isValid = true) (out : OutVal α) (ok : Bool)
    (hm : (ColorPair.new E it.text it.bg it.large).makeReadable E O d mode very = some (out, ok)) :
    (match (Bulk.entry E O d mode very it).colour with | .tuned v => v = out | .original => False) := by
  unfold Bulk.entry
  simp only [h, hm, Bool.not_true, Bool.false_eq_true, if_false]

/-- the status of a valid entry whose returned colour is text that re-reads as `c` is the readability label of
    `c` against the entry's own background at the entry's text size (lower-cased) -/
theorem entry_valid_status (E : PEnv) (O : Leaf α) (d : Descend α) (mode : Int) (very : Bool) (it : BulkItem α)
    (h : (ColorPair.new E it.text it.bg it.large).isValid = true) (s : Str) (ok : Bool) (c b : RGB)
    (hm : (ColorPair.new E it.text it.bg it.large).makeReadable E O d mode very = some (.text s, ok))
    (hc : (Color.new (α := α) E (.str s) (some (Color.new E it.bg none))).rgb? = some c)
    (hb : (Color.new (α := α) E it.bg none).rgb? = some b) :
    (Bulk.entry E O d mode very it).status = ((wcagLevel (α := α) c b it.large).label).toLower := by
  unfold Bulk.entry
  simp [h, hm, hc, hb]

end CmProps.C12
