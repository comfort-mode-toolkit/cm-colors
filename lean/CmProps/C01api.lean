import CmProps.C01
import CmProps.C06rt
/-!
# C01 at the API: `make_readable`'s flag is the verdict on the colour its result reads back as
-/
namespace CmProps.C01
open Cm Cm.Parse Cm.FmtRt

/-- the float carrier's hypothesis for `hsl()` output: the three printed numbers read back as the
    colour (a theorem at the exact carrier — `CmProps.C06.hsl_roundtrip_exact`; for doubles it is the
    exhaustive 2^24 sweep of the C06 check) -/
def HslExact (α : Type) [Num α] : Prop :=
  ∀ c : RGB, validRgb c = true → hslTextToRgb (rgbToHslText (α := α) c) = some c

/-- `CmProps.C06.format_reads_back_of` with its `hsl()` hypothesis named `HslExact` -/
theorem format_reads_back_of {α : Type} [Num α] (hα : ByteExact α) (hH : HslExact α) {cls : CharCls}
    (hf : AsciiFaithful cls) (named : List (Str × Str)) (hk : keysLower named = true)
    (c : RGB) (hc : validRgb c = true) (f : Fmt) (bg : Option RGB) :
    readBack (α := α) ⟨cls, named⟩ bg (formatColor (α := α) c f) = some c :=
  CmProps.C06.format_reads_back_of hα hH hf named hk c hc f bg

/-- C01, C02 and C04 at the API are this plus their theorem about `checkAndFix` -/
theorem makeReadable_reads_back {α : Type} [NumT α] (hα : ByteExact α) (hH : HslExact α) (E : PEnv)
    (hf : AsciiFaithful E.cls) (hk : keysLower E.named = true) (O : Leaf α) (d : Descend α)
    (p : ColorPair α) (mode : Int) (very : Bool) (t b : RGB) (ht : p.text.rgb? = some t)
    (hb : p.bg.rgb? = some b) (hv : validRgb (checkAndFix O d t b p.large mode very).1 = true)
    (bg' : Option RGB) :
    ∃ out, p.makeReadable E O d mode very = some (out, (checkAndFix O d t b p.large mode very).2) ∧
      readBack (α := α) E bg' out = some (checkAndFix O d t b p.large mode very).1 := by
  refine ⟨_, CmProps.C06.makeReadable_returns_formatted hα E hf hk O d p mode very t b ht hb hv, ?_⟩
  obtain ⟨cls, named⟩ := E
  exact format_reads_back_of hα hH hf named hk _ hv _ bg'

/-- **C01 at the API.** For a valid pair, `make_readable` returns `(out, ok)` where `out` reads back (through the library's own
    reader; C06/C07 tie that reader to CSS) as a colour `c` and `ok` is exactly `contrast(c, bg) ≥ minimum` for the settings. -/
theorem makeReadable_flag {α : Type} [NumT α] (hα : ByteExact α) (hH : HslExact α) (E : PEnv)
    (hf : AsciiFaithful E.cls) (hk : keysLower E.named = true) (O : Leaf α) (d : Descend α)
    (p : ColorPair α) (mode : Int) (very : Bool) (t b : RGB) (ht : p.text.rgb? = some t)
    (hb : p.bg.rgb? = some b) (hv : validRgb (checkAndFix O d t b p.large mode very).1 = true)
    (bg' : Option RGB) :
    ∃ out ok c, p.makeReadable E O d mode very = some (out, ok) ∧
      readBack (α := α) E bg' out = some c ∧
      ok = Num.ge (O.contrast c b) (thresholds (α := α) p.large very).1 := by
  obtain ⟨out, h, hr⟩ := makeReadable_reads_back hα hH E hf hk O d p mode very t b ht hb hv bg'
  exact ⟨out, _, _, h, hr, checkAndFix_flag O d t b p.large very mode⟩

end CmProps.C01
