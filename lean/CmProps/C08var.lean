import CmProofs.CliVarLemmas
import CmProps.C08cli
/-!
# C08, the custom-property case at file level

"Each rule the tool reports as adjusted is, in the written file, set — directly or through its custom property — to the reported
colour." `CmProps.C08cli` proves the direct case at file level and the custom-property case right after the rule. Here: the
invariant `VarsPointAtDefs` (every entry `(--x, d)` of the custom-property table points at a declaration named `--x` whose value
agrees with the entry's), and `reported_is_written_var_of_no_readjust`: for a rule adjusted through `--x` such that no later
rule changes the table entry of `--x`, the written definition of `--x` holds the colour reported for that rule. Without the
hypothesis the claim is false (finding K1: a custom property shared by two adjusted rules).

A proviso made explicit: the model keeps a declaration's `name` and `lower_name` as independent fields. A definition `--x` whose
`lower_name` were `color` would be taken for the rule's text colour and rewritten directly, without the table noticing; the
value statements therefore carry the premise `dd.lowerName ≠ "color"` (always true for tinycss2, where `lower_name` is the
lower-cased `name`).
-/
namespace CmProps.C08
open Cm Cm.Cli Cm.Fs

/-- `VarsPointAtDefs` with `DefAgrees` unfolded: as collected (the entry holds the declaration's stripped value) or as rewritten
    (the declaration holds the entry's value followed by its kept comments) — unless the tool takes it for a `color` declaration -/
theorem varsPointAtDefs_def (env : CliEnv) (st : St) :
    VarsPointAtDefs env st ↔ ∀ name d, lookupVar st.vars name = some d →
      ∃ its dd, getRoot st d.rule = some its ∧ its[d.item]? = some (.decl dd) ∧ dd.name = name ∧
        (dd.lowerName = "color".toList ∨ d.value = strip env dd.value ∨ dd.value = d.value ++ dd.comments) := Iff.rfl

/-- the trace of a node: one visit per successfully processed rule, `@media` / `@supports` bodies in order -/
theorem traceNode_def (env : CliEnv) (cfg : Cfg) (top : Option Nat) (st : St) :
    (∀ sel items, traceNode env cfg top st (.rule sel items) =
      match processRule env cfg top sel items st with
      | .ok (_, st') => [{ top := top, sel := sel, items0 := items, before := st, after := st' }]
      | .error _ => []) ∧
    (∀ kw pre body, traceNode env cfg top st (.at kw pre body) = if isNested kw then traceNodes env cfg st body else []) ∧
    (∀ t ok, traceNode env cfg top st (.other t ok) = []) :=
  ⟨fun _ _ => by simp only [traceNode]; rfl, fun _ _ _ => by simp only [traceNode], fun _ _ => by simp only [traceNode]⟩

/-- the trace of a nested list: the nodes' traces, each started from the state the previous node left -/
theorem traceNodes_def (env : CliEnv) (cfg : Cfg) (st : St) :
    traceNodes env cfg st [] = [] ∧
    ∀ n ns, traceNodes env cfg st (n :: ns) = traceNode env cfg none st n ++
      (match processNode env cfg none st n with
       | .ok (_, st1) => traceNodes env cfg st1 ns
       | .error _ => []) :=
  ⟨by simp only [traceNodes], fun _ _ => by simp only [traceNodes]; rfl⟩

/-- the trace of a file: the top-level nodes' traces from the pre-pass state on, `:root` / `html` rules visited with their index -/
theorem fileTrace_def (env : CliEnv) (cfg : Cfg) (nodes : List Node) (st0 : St) :
    fileTrace env cfg nodes st0 = traceTop env cfg nodes 0 (fileSt env nodes st0) ∧
    (∀ i st, traceTop env cfg [] i st = []) ∧
    ∀ n ns i st, traceTop env cfg (n :: ns) i st = traceNode env cfg (topOf n i) st n ++
      (match processNode env cfg (topOf n i) st n with
       | .ok (_, st1) => traceTop env cfg ns (i + 1) st1
       | .error _ => []) :=
  ⟨rfl, fun _ _ => by simp only [traceTop], fun _ _ _ _ => by simp only [traceTop]; rfl⟩

/-- in a written file the visits are chained from the pre-pass state to the final state; the second and third conjunct are the
    equations of `Chained` (they do not depend on `h`) -/
theorem fileTrace_chained (env : CliEnv) (cfg : Cfg) (nodes : List Node) (st0 : St) (out : List Node) (st' : St)
    (h : processFile env cfg nodes st0 = (.written out, st')) :
    Chained env cfg (fileSt env nodes st0) (fileTrace env cfg nodes st0) st' ∧
    (∀ st v r st2, Chained env cfg st (v :: r) st2 ↔
      v.before = st ∧ (∃ items', processRule env cfg v.top v.sel v.items0 v.before = .ok (items', v.after)) ∧
        Chained env cfg v.after r st2) ∧
    (∀ st st2, Chained env cfg st [] st2 ↔ st = st2) :=
  ⟨processFile_chained env cfg nodes st0 out st' h, fun _ _ _ _ => by simp only [Chained, IsVisit],
    fun _ _ => by simp only [Chained]⟩

/-- the pre-pass leaves a table whose entries point at the `--x` declarations they were collected from (a later definition of
    the same name replaces an earlier one) -/
theorem prePass_points_at_defs (env : CliEnv) (nodes : List Node) : VarsPointAtDefs env (prePass env nodes) :=
  prePass_varsInv env (defAgrees_init env) nodes

theorem fileSt_points_at_defs (env : CliEnv) (nodes : List Node) (st0 : St) : VarsPointAtDefs env (fileSt env nodes st0) :=
  (prePass_points_at_defs env nodes).congr (stRel_fileSt env nodes st0)

/-- every rule keeps the table pointing at the definitions, whatever branch it takes, also when re-serialising fails
    (`setDeclValue` changes one value and no name); hence so does a node, a nested rule list and the top-level loop -/
theorem processRule_keeps_pointing (env : CliEnv) (cfg : Cfg) (top : Option Nat) (sel : Str) (items0 : List Item) (st : St)
    (hi : VarsPointAtDefs env st) : VarsPointAtDefs env (resSt (processRule env cfg top sel items0 st)) :=
  processRule_varsInv (defAgrees_rel env) env cfg top sel items0 st hi

theorem processNode_keeps_pointing (env : CliEnv) (cfg : Cfg) (top : Option Nat) (st : St) (n : Node)
    (hi : VarsPointAtDefs env st) : VarsPointAtDefs env (resSt (processNode env cfg top st n)) :=
  (varsInv_respected (defAgrees_rel env) env cfg).node top st n hi

theorem processNodes_keeps_pointing (env : CliEnv) (cfg : Cfg) (st : St) (ns : List Node)
    (hi : VarsPointAtDefs env st) : VarsPointAtDefs env (resSt (processNodes env cfg st ns)) :=
  (varsInv_respected (defAgrees_rel env) env cfg).nodes st ns hi

theorem processTop_keeps_pointing (env : CliEnv) (cfg : Cfg) (ns : List Node) (i : Nat) (st : St)
    (hi : VarsPointAtDefs env st) : VarsPointAtDefs env (resSt (processTop env cfg ns i st)) :=
  (varsInv_respected (defAgrees_rel env) env cfg).top ns i st hi

theorem processFile_points_at_defs (env : CliEnv) (cfg : Cfg) (nodes : List Node) (st0 : St) :
    VarsPointAtDefs env (processFile env cfg nodes st0).2 := by
  rw [processFile_snd]
  exact processTop_keeps_pointing env cfg nodes 0 _ (fileSt_points_at_defs env nodes st0)

/-- the written file defines each custom property in agreement with the entry the table ends with: as collected (never rewritten
    since) or as rewritten. No report is mentioned; that the value is a reported colour is `reported_is_written_var_of_no_readjust` -/
theorem var_definition_holds_reported_colour (env : CliEnv) (cfg : Cfg) (nodes : List Node) (st0 : St) (out : List Node)
    (st' : St) (h : processFile env cfg nodes st0 = (.written out, st'))
    (name : Str) (d : VarDef) (hl : lookupVar st'.vars name = some d) :
    ∃ sel its dd, out[d.rule]? = some (.rule sel its) ∧ isRootSel sel = true ∧
      its[d.item]? = some (.decl dd) ∧ dd.name = name ∧
      (dd.lowerName ≠ "color".toList → d.value = strip env dd.value ∨ dd.value = d.value ++ dd.comments) := by
  have hinv := processFile_points_at_defs env cfg nodes st0
  rw [h] at hinv
  obtain ⟨its, dd, hg, hit, hn, hq⟩ := hinv name d hl
  obtain ⟨sel, hout, hroot⟩ := processFile_written_root env cfg nodes st0 out st' h d.rule its hg
  exact ⟨sel, its, dd, hout, hroot, hit, hn, hq.resolve_left⟩

/-- `v`: a visit in which a rule is adjusted through `var(--x)`; `hlater`: no later visit changes the table entry of `--x` (K1
    excluded). Then the `Fixed` record the visit pushed is still in the final report, and the written definition of `--x` is its
    `tunedText` followed by the comments the old value contained -/
theorem reported_is_written_var_of_no_readjust (env : CliEnv) (cfg : Cfg) (nodes : List Node) (st0 : St) (out : List Node)
    (st' : St) (h : processFile env cfg nodes st0 = (.written out, st'))
    (l1 l2 : List RuleVisit) (v : RuleVisit) (htrace : fileTrace env cfg nodes st0 = l1 ++ v :: l2)
    (ci : Nat) (cd : Decl) (hl : lastDecl (seenItems v.top v.items0 v.before) "color".toList = some (ci, cd))
    (hv : verdict (evalOf env cfg v.before (seenItems v.top v.items0 v.before) cd) = .tuned)
    (name : Str) (d : VarDef) (hvar : viaVarOf env v.before (strip env cd.value) = some (name, d))
    (hlater : ∀ w ∈ l2, lookupVar w.after.vars name = lookupVar w.before.vars name) :
    ∃ f : Fixed, v.after.fixedDetails = f :: v.before.fixedDetails ∧ f.selector = v.sel ∧
      f.tunedText = (cfg.pairEval f.originalText f.bg).tuned ∧ f ∈ st'.fixedDetails ∧
      lookupVar st'.vars name = some { d with value := f.tunedText } ∧
      ∃ sel its dd, out[d.rule]? = some (.rule sel its) ∧ isRootSel sel = true ∧
        its[d.item]? = some (.decl dd) ∧ dd.name = name ∧
        (dd.lowerName ≠ "color".toList → dd.value = f.tunedText ++ dd.comments) := by
  have hch := processFile_chained env cfg nodes st0 out st' h
  rw [htrace] at hch
  obtain ⟨a, hch1, hch2⟩ := hch.split l1
  simp only [Chained] at hch2
  obtain ⟨hbefore, ⟨items', hstep⟩, hch3⟩ := hch2
  -- up to the visit the invariant is `DefAgrees`; the visit establishes the sharper `TightFor name`, which later visits preserve
  -- (`tightFor_rel`); `hlater` keeps the entry, so the final entry is the visit's and the declaration it points at holds its value
  have hinv : VarsInv (DefAgrees env) v.before := by
    rw [hbefore]; exact (varsInv_respected (defAgrees_rel env) env cfg).chained hch1 (fileSt_points_at_defs env nodes st0)
  rw [processRule_eq_verdict, hl] at hstep
  simp only [hv, tunedStep, hvar] at hstep
  have hafter : v.after = rewriteVar (tuneSt v.before (fixedOf env cfg v.before v.sel (seenItems v.top v.items0 v.before) cd))
      name d (evalOf env cfg v.before (seenItems v.top v.items0 v.before) cd).tuned :=
    (Prod.mk.inj (Except.ok.inj hstep)).2.symm
  have hlook : lookupVar v.before.vars name = some d := (viaVarOf_some hvar).2.2
  have htight : VarsInv (TightFor name) v.after := by
    rw [hafter]; exact rewriteVar_tight _ name d _ (hinv.congr (stRel_tuneSt _ _)) hlook
  have hfix : v.after.fixedDetails =
      fixedOf env cfg v.before v.sel (seenItems v.top v.items0 v.before) cd :: v.before.fixedDetails := by
    rw [hafter]; exact (rewriteVar_sameCounts _ _ _ _).fixedDetails
  have hlook' : lookupVar v.after.vars name =
      some { d with value := (evalOf env cfg v.before (seenItems v.top v.items0 v.before) cd).tuned } := by
    rw [hafter]; exact lookupVar_rewriteVar_self (st1 := tuneSt v.before _) hlook _
  have hfinal := (varsInv_respected (tightFor_rel name) env cfg).chained hch3 htight
  have hkeep := hch3.lookup_unchanged name hlater
  rw [hlook'] at hkeep
  obtain ⟨its, dd, hg, hit, hn, hq⟩ := hfinal name _ hkeep
  obtain ⟨sel, hout, hroot⟩ := processFile_written_root env cfg nodes st0 out st' h _ its hg
  refine ⟨_, hfix, rfl, rfl, ?_, hkeep, sel, its, dd, hout, hroot, hit, hn, (hq rfl).resolve_left⟩
  exact ((fixedSuffix_respected env cfg).chained hch3).subset (by rw [hfix]; exact List.mem_cons_self ..)

section Examples
open Cm.Cli.Demo

/-- `:root { --c: #777 } p { color: var(--c) } b { color: #888 }` with an oracle that tunes everything to
    `#111`: the file is written; three rules are visited; the second visit adjusts `p` through `--c`, defined
    at item 0 of rule 0; the later visit (`b`, rewritten directly) leaves the entry of `--c` alone; the written
    definition of `--c` is `#111`, the colour reported for `p` -/
example :
    isWritten (processFile asciiEnv cfgTune sheetVarOnce {}).1 = true ∧
    (fileTrace asciiEnv cfgTune sheetVarOnce {}).map (·.sel) = [":root".toList, "p".toList, "b".toList] ∧
    (fileTrace asciiEnv cfgTune sheetVarOnce {})[1]?.bind (visitVia asciiEnv cfgTune) = some ("--c".toList, 0, 0) ∧
    ((fileTrace asciiEnv cfgTune sheetVarOnce {}).drop 2).all
      (fun w => entryOf w.after "--c".toList == entryOf w.before "--c".toList) = true ∧
    writtenDecl (processFile asciiEnv cfgTune sheetVarOnce {}).1 0 0 = some ("--c".toList, "#111".toList) ∧
    (processFile asciiEnv cfgTune sheetVarOnce {}).2.fixedDetails.map (fun f => (f.selector, f.tunedText)) =
      [("b".toList, "#111".toList), ("p".toList, "#111".toList)] :=
  by decide +kernel

/-- `reported_is_written_var_of_no_readjust` applies to that sheet: the record reported for `p` is in the final report and the
    written `:root` block defines `--c` as its colour -/
example (out : List Node) (st' : St) (h : processFile asciiEnv cfgTune sheetVarOnce {} = (.written out, st')) :
    ∃ f ∈ st'.fixedDetails, f.selector = "p".toList ∧ ∃ sel its dd, out[0]? = some (.rule sel its) ∧
      its[0]? = some (.decl dd) ∧ dd.name = "--c".toList ∧
      (dd.lowerName ≠ "color".toList → dd.value = f.tunedText ++ dd.comments) := by
  obtain ⟨hs, h1, h2⟩ :
      (fileTrace asciiEnv cfgTune sheetVarOnce {}).map (·.sel) = [":root".toList, "p".toList, "b".toList] ∧
      (fileTrace asciiEnv cfgTune sheetVarOnce {})[1]?.bind (visitVia asciiEnv cfgTune) = some ("--c".toList, 0, 0) ∧
      ((fileTrace asciiEnv cfgTune sheetVarOnce {}).drop 2).all
        (fun w => entryOf w.after "--c".toList == entryOf w.before "--c".toList) = true := by decide +kernel
  have hthm := reported_is_written_var_of_no_readjust asciiEnv cfgTune sheetVarOnce {} out st' h
  generalize fileTrace asciiEnv cfgTune sheetVarOnce {} = tr at hs h1 h2 hthm
  obtain ⟨a, b, c, rfl⟩ : ∃ a b c, tr = [a, b, c] := by
    have hlen : tr.length = 3 := by have := congrArg List.length hs; simpa using this
    match tr, hlen with
    | [a, b, c], _ => exact ⟨a, b, c, rfl⟩
  simp only [List.map_cons, List.map_nil, List.cons.injEq, and_true] at hs
  obtain ⟨ci, cd, d, hl, hv, hvar, hr, hi⟩ := visitVia_spec (by simpa using h1 : visitVia asciiEnv cfgTune b = _)
  have hlater : ∀ w ∈ [c], lookupVar w.after.vars "--c".toList = lookupVar w.before.vars "--c".toList := by
    intro w hw
    simp only [List.mem_singleton] at hw; subst hw
    exact lookupVar_eq_of_entryOf (by simpa using h2)
  obtain ⟨f, _, hsel, _, hmem, _, sel, its, dd, ho, _, hit, hn, hval⟩ :=
    hthm [a] [c] b rfl ci cd hl hv _ d hvar hlater
  rw [hr] at ho; rw [hi] at hit
  exact ⟨f, hmem, hsel.trans hs.2.1, sel, its, dd, ho, hit, hn, hval⟩

end Examples

end CmProps.C08
