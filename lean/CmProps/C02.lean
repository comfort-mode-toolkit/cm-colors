import CmProofs.SearchComplete
import CmProofs.Strategy
/-!
# C02 — fixing never harms

Readable pairs are returned unchanged with success; otherwise the returned colour's contrast is never lower than the original's —
every mode, every setting, success or not. Every carrier with a lawful order, every leaf oracle, every descent function.
-/
namespace CmProps.C02
open Cm
variable {α : Type} [Num α]

/-- already meets the minimum ⇒ exactly the input, reported as success (no law needed) -/
theorem already_ok_identity (O : Leaf α) (d : Descend α) (t bg : RGB) (large premium : Bool) (mode : Int)
    (h : Num.ge (O.contrast t bg) (thresholds (α := α) large premium).1 = true) :
    checkAndFix O d t bg large mode premium = (t, true) :=
  (checkAndFix_eq O d t bg large mode premium).trans (if_pos h)

variable [LawfulNumOrd α]

/-- the multi-phase search never lowers the contrast — any schedule, target, minimum -/
theorem gen_monotone (O : Leaf α) (d : Descend α) (t bg : RGB) (target minC : α) (sched : List α) :
    Num.le (O.contrast t bg) (O.contrast (genAccessible O d t bg target minC sched) bg) = true := by
  by_cases hc : Num.ge (O.contrast t bg) target = true
  · rw [genAccessible_of_ge O d t bg target minC sched hc]; exact le_rfl' _
  · rw [genAccessible_of_not_ge O d t bg target minC sched hc]
    -- a return on a colour meeting the target: the text was below it; any other result dominates
    -- the record the loop started from, which is the text's own contrast
    rcases genLoop_spec O d t bg target minC (sched.getLastD (0.0 : α)) sched _ (GMax.init O t bg O.inf)
      with hmeets | ⟨_pre, _post, _, _, hstart, _⟩
    · exact le_trans' (le_of_not_le (Bool.eq_false_iff.2 hc)) hmeets
    · exact hstart

theorem strict_monotone (O : Leaf α) (d : Descend α) (t bg : RGB) (target minC : α) :
    Num.le (O.contrast t bg) (O.contrast (strategyStrict O d t bg target minC).1 bg) = true :=
  gen_monotone O d t bg target minC defaultSchedule

theorem recursiveLoop_monotone (O : Leaf α) (d : Descend α) (bg : RGB) (target minC : α) (n : Nat) (cur : RGB) :
    Num.le (O.contrast cur bg) (O.contrast (recursiveLoop O d bg target minC n cur).1 bg) = true :=
  recursiveLoop_path O d bg target minC (fun _ a c => Num.le (O.contrast a bg) (O.contrast c bg) = true)
    (fun _ _ => le_rfl' _) (fun _ a _ h => le_trans' (gen_monotone O d a bg target minC stepSchedule) h) n cur

theorem recursive_monotone (O : Leaf α) (d : Descend α) (t bg : RGB) (target minC : α) :
    Num.le (O.contrast t bg) (O.contrast (strategyRecursive O d t bg target minC).1 bg) = true :=
  recursiveLoop_monotone O d bg target minC 10 t

theorem relaxed_monotone (O : Leaf α) (d : Descend α) (t bg : RGB) (target minC : α) :
    Num.le (O.contrast t bg) (O.contrast (strategyRelaxed O d t bg target minC).1 bg) = true := by
  rcases strategyRelaxed_cases O d t bg target minC with ⟨h, _⟩ | ⟨h, _⟩ | ⟨h, _⟩ <;> rw [h]
  · exact recursive_monotone O d t bg target minC
  · exact recursiveLoop_monotone O d bg target minC 15 t
  · exact gen_monotone O d t bg target minC relaxedSchedule

/-- `check_and_fix_contrast`, every mode (any integer) and setting, whether or not it succeeded -/
theorem checkAndFix_monotone (O : Leaf α) (d : Descend α) (t bg : RGB) (large premium : Bool) (mode : Int) :
    Num.le (O.contrast t bg) (O.contrast (checkAndFix O d t bg large mode premium).1 bg) = true := by
  refine checkAndFix_rule O d t bg large mode premium
    (fun r => Num.le (O.contrast t bg) (O.contrast r.1 bg) = true) (fun _ => le_rfl' _) fun _ => ?_
  rintro S (rfl | rfl | rfl)
  · exact strict_monotone O d t bg _ _
  · exact relaxed_monotone O d t bg _ _
  · exact recursive_monotone O d t bg _ _

end CmProps.C02
