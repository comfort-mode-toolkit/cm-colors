import CmModel.Parser
import CmModel.PyValInt
import CmGen.ParserSeq
import CmProofs.Rgb
import CmProofs.Logic
/-!
# C14 — the tuple/list branch and the type dispatch of `parse_color_to_rgb`, as translated from the source on this run, are the model's

`harness/translate/parserseq.py` reads `parse_color_to_rgb` in `core/color_parser.py` on every run and writes
`CmGen/ParserSeq.lean`: the body of `if isinstance(color, (tuple, list)):` (`parse_color_seq`, with the body of its
`for c in color:` loop as `parse_color_seq__for1`) and the top-level dispatch on the dynamic type of `color`
(`parse_color_to_rgb`, whose string branch is a parameter — it is translated separately). The theorems below prove
them equal to the model's `parseColor` (`CmModel/Parser.lean`), for every carrier `α`, every environment `E` and every
Python value: what C14 (and C07/C13 through it) prove about `parseColor` on sequences is about this code.

**Background abstraction.** `Color._parse` calls `parse_color_to_rgb(value, background=…)` with `None` or the already
parsed 3-tuple of ints of the background colour. In the image, as in the model, `background : Option RGB`;
`background is None` is a match, `isinstance(background, (tuple, list)) and len(background) == 3` is `true && 3 = 3`
on `some _`, `tuple(background)` is the triple, and the recursive call `parse_color_to_rgb(background)` is the model's
`bgParsed (some _)`. The last rule is not only assumed: `source_background_reparse` proves that the generated sequence
branch, run on a triple of ints, is `bgParsed`.
-/
namespace CmProps.C14
open Cm Cm.Parse
variable {α : Type} [Num α]

/-- the body of `for c in color:` on the default (RGB) path is the model's `rgbComponent`
    (`True`/`False` are the ints 1/0: they pass `isinstance(c, int) and 0 <= c <= 255`) -/
theorem source_parse_color_seq_component (E : PEnv) (c : PyVal α) :
    CmGen.ParserSeq.parse_color_seq__for1 E c = rgbComponent E c := by
  cases c with
  | int n =>
    -- `0 <= c <= 255` is `&&` of two `decide`s in the code, a conjunction in the model
    exact ite_congr (by simp only [Bool.and_eq_true, decide_eq_true_eq]) (fun _ => rfl) fun _ => rfl
  | bool b => cases b <;> rfl
  | _ => rfl

/-- `ln == 3`: the HSL-looking heuristic, `hsl_to_rgb(color)`, the component loop and the clamp / validity tail -/
private theorem seq3 (E : PEnv) (r g b : PyVal α) (bg : Option RGB) :
    CmGen.ParserSeq.parse_color_seq E [r, g, b] bg = parseColor E (.tuple [r, g, b]) bg := by
  unfold CmGen.ParserSeq.parse_color_seq parseColor
  simp only [source_parse_color_seq_component, ite_bnot]
  refine (if_pos rfl).trans ?_
  -- the code tests `isinstance` where the model matches on `numValue`: the two agree
  rw [PyVal.isNumber_eq_numValue_isSome r]
  generalize r.numValue = o
  cases o with
  | none => rfl
  | some x =>
    refine ite_congr (congrArg (· = true) ?_) (fun _ => rfl) fun _ => rfl
    -- the test on the first element is the same; those on `g` and `b` are nested in the code, which also
    -- asks `not isinstance(·, int)` of the two floats
    refine (congrArg (and _) ?_).trans (Bool.and_assoc _ _ _).symm
    cases g with
    | float gf =>
      refine congrArg (and _) ?_
      cases b with
      | float bf => exact Bool.and_true _
      | _ => rfl
    | _ => rfl

/-- `ln == 4`: the `looks_like_rgb` heuristic, RGBA through `_parse_number_token(str(x), …)` and `rgba_to_rgb` over the
    resolved background, else `hsla_to_rgb(color, bg_rgb)` -/
private theorem seq4 (E : PEnv) (r g b a : PyVal α) (bg : Option RGB) :
    CmGen.ParserSeq.parse_color_seq E [r, g, b, a] bg = parseColor E (.tuple [r, g, b, a]) bg := by
  unfold CmGen.ParserSeq.parse_color_seq parseColor
  refine (if_neg Bool.false_ne_true).trans ((if_pos rfl).trans ?_)
  refine ite_congr (congrArg (· = true) ?_) (fun _ => ?_) (fun _ => ?_)
  · -- `isinstance(v, (int, float)) and v > 1`, one `v` at a time: the code's `isinstance` is the match that yields `float(v)`
    simp only [PyVal.isNumber_eq_numValue_isSome]
    congr 1
    congr 1
    congr 1
    · cases r.numValue <;> rfl
    · cases g.numValue <;> rfl
    · cases b.numValue <;> rfl
  · cases bg <;> rfl
  · cases bg <;> rfl

/-- **the tuple/list branch of `parse_color_to_rgb`** (the body of `if isinstance(color, (tuple, list)):` as it reads
    now) is the model's `parseColor` on a tuple with these elements, for every length, every element type and either
    kind of background (`None` / parsed triple — the background abstraction of the file header) -/
theorem source_parse_color_sequence (E : PEnv) (xs : List (PyVal α)) (bg : Option RGB) :
    CmGen.ParserSeq.parse_color_seq E xs bg = parseColor E (.tuple xs) bg := by
  match xs with
  | [r, g, b] => exact seq3 E r g b bg
  | [r, g, b, a] => exact seq4 E r g b a bg
  | [] | [_] | [_, _] | _ :: _ :: _ :: _ :: _ :: _ => rfl

/-- on a list with these elements (the code does not distinguish the two) -/
theorem source_parse_color_sequence_list (E : PEnv) (xs : List (PyVal α)) (bg : Option RGB) :
    CmGen.ParserSeq.parse_color_seq E xs bg = parseColor E (.list xs) bg :=
  (source_parse_color_sequence E xs bg).trans rfl

/-- **the top level of `parse_color_to_rgb`**: `isinstance(color, (tuple, list))` → the sequence branch,
    `isinstance(color, str)` → the string branch (here the model's `parseStr`; the code's string branch is tied to it
    separately), anything else (`None`, numbers, bools, …) → `ValueError` -/
theorem source_parse_color_dispatch (E : PEnv) (color : PyVal α) (bg : Option RGB) :
    CmGen.ParserSeq.parse_color_to_rgb (parseStr (α := α) E) E color bg = parseColor E color bg := by
  unfold CmGen.ParserSeq.parse_color_to_rgb
  cases color
  case tuple xs => exact source_parse_color_sequence E xs bg
  case list xs => exact source_parse_color_sequence_list E xs bg
  all_goals rfl

/-- the dispatch with an arbitrary string branch: it is consulted on strings only, and then decides alone -/
theorem source_parse_color_dispatch_str (sb : Str → Option RGB → Except PyErr RGB) (E : PEnv) (s : Str)
    (bg : Option RGB) :
    CmGen.ParserSeq.parse_color_to_rgb (α := α) sb E (.str s) bg = sb s bg := rfl

/-- the rule "`parse_color_to_rgb(background)` on an already parsed triple is `bgParsed`" is a theorem about the
    translated code: the sequence branch on three ints (no background of its own) re-validates the triple -/
theorem source_background_reparse (E : PEnv) (r g b : Int) :
    CmGen.ParserSeq.parse_color_seq (α := α) E [.int r, .int g, .int b] none = bgParsed (some (r, g, b)) := by
  rw [source_parse_color_sequence]
  -- ints are not HSL-looking: the model tests the three components in turn
  simp only [parseColor, bgParsed, rgbComponent, PyVal.numValue, PyVal.isNumber, PyVal.isInt, PyVal.isFloat,
    Bool.and_false, Bool.false_eq_true, if_false]
  by_cases hr : 0 ≤ r ∧ r ≤ 255
  case neg => rw [if_neg hr, if_neg fun h => hr ((validRgb_iff _).1 h).1]; rfl
  by_cases hg : 0 ≤ g ∧ g ≤ 255
  case neg => rw [if_pos hr, if_neg hg, if_neg fun h => hg ((validRgb_iff _).1 h).2.1]; rfl
  by_cases hb : 0 ≤ b ∧ b ≤ 255
  case neg => rw [if_pos hr, if_pos hg, if_neg hb, if_neg fun h => hb ((validRgb_iff _).1 h).2.2]; rfl
  -- all three in range: `clamp255` changes nothing and the triple is valid
  have hv := (validRgb_iff (r, g, b)).2 ⟨hr, hg, hb⟩
  simp only [if_pos hr, if_pos hg, if_pos hb, bind, Except.bind, clamp255_id hr, clamp255_id hg, clamp255_id hb, if_pos hv]
  rfl

end CmProps.C14
