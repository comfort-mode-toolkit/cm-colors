import CmProofs.SearchComplete
import CmProofs.SearchCompleteField
import CmProps.C02
import CmProps.C16
import CmProofs.Strategy
/-!
# C03 — a barely perceptible lightness-only fix, if one exists, is found

"Whenever a barely perceptible lightness-only fix exists — some colour with the text's own OKLCH
chroma and hue lies within CIEDE2000 1.5 of the text and clears the required contrast minimum by at
least 0.05 — make_readable succeeds in every mode, and the colour it returns is no further than
CIEDE2000 2.0 from the original."

This is a completeness claim about a numeric search (a 20-step bisection over lightness). It cannot follow from control flow:
whether the bisection *reaches* the witness depends on the shape of the leaf functions along the searched lightness interval. So
`C03_full` below, the property as worded, is a **definition, not a theorem**: for an arbitrary leaf record it is false (take
`deltaE`/`contrast` that make the witness an isolated point which the 20 dyadic probes miss), and for the real leaves it is a
statement about the numeric shape of CIEDE2000 and WCAG contrast along a line of constant OKLCH chroma and hue. What is proved, for
every carrier, leaf record and descent function, is the search's correctness **relative to explicit hypotheses**:
`C03_full_of_probeHyp` reduces `C03_full` to `ProbeHyp` (a probe of the bisection at tolerance 1.6 lands in the band) plus
`0 < minimum` and `ΔE(t, t) ≤ 2.0`; the bracketing argument reduces that to `Mono` + `DirOK` + `Res` (explained before `C03_full`);
at carriers with exact ordered-field arithmetic (`ℚ`, `ℝ`), where `Res` is a width, that gives `C03_full_real`, `C03_full_rat`
relative to `BandHypAll`. No control-flow argument can supply these hypotheses: the loop is the same function of the leaf record
whether or not `d` and `k` are monotone, the direction test looks only at two lightness values, and the iteration count 20 is a
constant — nothing in the code inspects the width of the band.

A theorem that takes no `[LawfulNumOrd α]` holds for the executed `Float` instance as it is. The words `A L`, `T L`, `cand`, `d`,
`k`, band, `Mono`, `DirOK`, `Res` are defined in the header of `CmProofs/SearchComplete.lean`.
-/
namespace CmProps.C03
open Cm
variable {α : Type} [Num α]

theorem bsLoopTrace_eq (O : Leaf α) (t bg : RGB) (thr target c h : α) (up : Bool) (n : Nat) (s : BS α) :
    (bsLoopTrace O t bg thr target c h up n s).1 = bsLoop O t bg thr target c h up n s := by
  induction n generalizing s with
  | zero => rfl
  | succ n ih => simp only [bsLoopTrace, bsLoop]; exact ih _

theorem bsLoopTrace_count (O : Leaf α) (t bg : RGB) (thr target c h : α) (up : Bool) (n : Nat) (s : BS α) :
    (bsLoopTrace O t bg thr target c h up n s).2.length = n :=
  bsLoopTrace_length O t bg thr target c h up n s

/-- invariant (i) along the loop; `P` = lightnesses probed before -/
theorem bs_invariant_recorded (O : Leaf α) (t bg : RGB) (thr target c h : α) (up : Bool) (n : Nat)
    (P : α → Prop) (s : BS α)
    (hs : ∀ r, s.best = some r → ∃ m, P m ∧ r = candAt O c h m ∧ Acc O t thr c h m ∧
      s.bestC = kAt O bg c h m ∧ s.bestDE = dAt O t c h m) :
    ∀ r, (bsLoop O t bg thr target c h up n s).best = some r →
      ∃ m, (m ∈ (bsLoopTrace O t bg thr target c h up n s).2 ∨ P m) ∧ r = candAt O c h m ∧
        Acc O t thr c h m ∧
        (bsLoop O t bg thr target c h up n s).bestC = kAt O bg c h m ∧
        (bsLoop O t bg thr target c h up n s).bestDE = dAt O t c h m :=
  bsLoop_induct O t bg thr target c h up (BSRec O t bg thr c h)
    (fun P s => bsStep_rec O t bg thr target c h up P s) n P s hs

/-- **the loop invariant**: (i) (`recorded`), `BSSeen` (`seen`) and `BSMax` (`max`), each kept by one iteration -/
theorem bs_invariant [LawfulNumOrd α] (O : Leaf α) (t bg : RGB) (thr target c h : α) (up : Bool)
    (n : Nat) (P : α → Prop) (s : BS α) (hs : BSInvC O t bg thr target c h P s) :
    BSInvC O t bg thr target c h
      (fun x => x ∈ (bsLoopTrace O t bg thr target c h up n s).2 ∨ P x)
      (bsLoop O t bg thr target c h up n s) :=
  bsLoop_induct O t bg thr target c h up (BSInvC O t bg thr target c h)
    (fun P s hs => ⟨bsStep_rec O t bg thr target c h up P s hs.recorded,
      bsStep_seen O t bg thr target c h up P s hs.seen,
      bsStep_max O t bg thr target c h up P s hs.max⟩) n P s hs

/-- Why `hpos`: `best_contrast` starts at `0.0` and `best_delta_e` at the leaf's `inf`; with a non-positive target and a junk
    `inf` the first target-meeting probe would pass neither `best_contrast < target` nor `d < best_delta_e` and not be recorded. -/
theorem bs_invariant_init (O : Leaf α) (t bg : RGB) (thr target c h l : α) (up : Bool)
    (hpos : Num.lt (0.0 : α) target = true) :
    BSInvC O t bg thr target c h (fun _ => False) (bsInit O l up) :=
  ⟨fun r hr => by simp [bsInit] at hr,
   Or.inl ⟨hpos, fun m hm => absurd hm id⟩,
   ⟨fun _ => rfl, fun m hm => absurd hm id⟩⟩

theorem binarySearch_invC [LawfulNumOrd α] (O : Leaf α) (t bg : RGB) (thr target : α)
    (hpos : Num.lt (0.0 : α) target = true) :
    BSInvC O t bg thr target (bsC O t) (bsH O t) (fun x => x ∈ bsProbes O t bg thr target)
      (bsFinal O t bg thr target) := by
  simpa only [or_false, bsProbes, bsFinal] using bs_invariant O t bg thr target (bsC O t) (bsH O t) (bsUp O t bg) 20 (fun _ => False)
    (bsStart O t bg) (bs_invariant_init O t bg thr target _ _ _ _ hpos)

/-- what (ii) says once a target-meeting probe has been seen: it (or a closer one) is what is recorded -/
theorem seen_is_recorded (O : Leaf α) (t bg : RGB) (thr target c h : α) (P : α → Prop) (s : BS α)
    (hs : BSSeen O t bg thr target c h P s)
    (hseen : ∃ m, P m ∧ Acc O t thr c h m ∧ Meets O bg target c h m) :
    ∃ m', P m' ∧ s.best = some (candAt O c h m') ∧ Acc O t thr c h m' ∧ Meets O bg target c h m' ∧
      Num.ge s.bestC target = true ∧
      ∀ m, P m → Acc O t thr c h m → Meets O bg target c h m →
        Num.le s.bestDE (dAt O t c h m) = true := by
  obtain ⟨m, hm, hA, hT⟩ := hseen
  rcases hs with ⟨_, hno⟩ | ⟨m0, hP0, hb0, hA0, hT0, hc0, hd0, hmin⟩
  · exact absurd hT (hno m hm hA)
  · exact ⟨m0, hP0, hb0, hA0, hT0, by rw [hc0]; exact hT0, hmin⟩

/-- without ghost state: once the recorded contrast meets the target, an iteration keeps it so and can only lower the
    recorded distance -/
theorem bsStep_keeps_target [LawfulNumOrd α] (O : Leaf α) (t bg : RGB) (thr target c h : α)
    (up : Bool) (s : BS α) (hs : Num.ge s.bestC target = true) :
    Num.ge (bsStep O t bg thr target c h up s).bestC target = true ∧
    Num.le (bsStep O t bg thr target c h up s).bestDE s.bestDE = true := by
  rcases (bsStep_spec O t bg thr target c h up s).record with
    ⟨_, _, hde, hc⟩ | ⟨_, hT, hcond, _, hde, hc⟩ | ⟨_, _, _, _, hde, hc⟩ | ⟨_, hnT, hgt, _, _, _⟩ |
    ⟨_, _, _, _, hde, hc⟩
  · rw [hc, hde]; exact ⟨hs, le_rfl' _⟩
  · rw [hc, hde]
    refine ⟨hT, le_of_lt ?_⟩
    rw [not_lt_of_le hs] at hcond; simpa using hcond
  · rw [hc, hde]; exact ⟨hs, le_rfl' _⟩
  · exact absurd (le_trans' hs (le_of_lt hgt)) hnT
  · rw [hc, hde]; exact ⟨hs, le_rfl' _⟩

theorem bsLoop_keeps_target [LawfulNumOrd α] (O : Leaf α) (t bg : RGB) (thr target c h : α)
    (up : Bool) (n : Nat) (s : BS α) (hs : Num.ge s.bestC target = true) :
    Num.ge (bsLoop O t bg thr target c h up n s).bestC target = true ∧
    Num.le (bsLoop O t bg thr target c h up n s).bestDE s.bestDE = true := by
  induction n generalizing s with
  | zero => exact ⟨hs, le_rfl' _⟩
  | succ n ih =>
    obtain ⟨hstepC, hstepDE⟩ := bsStep_keeps_target O t bg thr target c h up s hs
    obtain ⟨hrestC, hrestDE⟩ := ih _ hstepC
    exact ⟨hrestC, le_trans' hrestDE hstepDE⟩

/-- what is returned is `cand m` for one of the 20 probed lightnesses, in tolerance -/
theorem binarySearch_result_is_probe (O : Leaf α) (t bg : RGB) (thr target : α) (r : RGB)
    (hr : binarySearch O t bg thr target = some r) :
    ∃ m ∈ bsProbes O t bg thr target, r = candAt O (bsC O t) (bsH O t) m ∧
      Acc O t thr (bsC O t) (bsH O t) m := by
  rw [binarySearch_eq_bsFinal] at hr
  obtain ⟨m, hm, h1, h2, _⟩ := binarySearch_rec O t bg thr target r hr
  exact ⟨m, hm, h1, h2⟩

/-- a probe with `A ∧ T` makes the search return a colour that meets the target and is in tolerance: the closest to the text
    of all such probes -/
theorem binarySearch_meets_target_of_probe [LawfulNumOrd α] (O : Leaf α) (t bg : RGB) (thr target : α)
    (hpos : Num.lt (0.0 : α) target = true)
    (hprobe : ∃ m ∈ bsProbes O t bg thr target,
      Acc O t thr (bsC O t) (bsH O t) m ∧ Meets O bg target (bsC O t) (bsH O t) m) :
    ∃ r, binarySearch O t bg thr target = some r ∧ Num.ge (O.contrast r bg) target = true ∧
      InTol O t thr r ∧
      ∀ m ∈ bsProbes O t bg thr target, Acc O t thr (bsC O t) (bsH O t) m →
        Meets O bg target (bsC O t) (bsH O t) m →
        Num.le (O.deltaE t r) (dAt O t (bsC O t) (bsH O t) m) = true := by
  obtain ⟨m, hm, hA, hT⟩ := hprobe
  rcases (binarySearch_invC O t bg thr target hpos).seen with ⟨_, hno⟩ | ⟨m0, _, hb, hA0, hT0, _, hd0, hmin⟩
  · exact absurd hT (hno m hm hA)
  · refine ⟨candAt O (bsC O t) (bsH O t) m0, (binarySearch_eq_bsFinal O t bg thr target).trans hb, hT0, hA0,
      fun m' hm' hA' hT' => ?_⟩
    have := hmin m' hm' hA' hT'
    rw [hd0] at this; exact this

/-- the same for any level `0 < v ≤ target` (the required *minimum* is such a level) -/
theorem binarySearch_ge_of_probe [LawfulNumOrd α] (O : Leaf α) (t bg : RGB) (thr target v : α)
    (hpos : Num.lt (0.0 : α) v = true) (hv : Num.le v target = true)
    (hprobe : ∃ m ∈ bsProbes O t bg thr target,
      Acc O t thr (bsC O t) (bsH O t) m ∧ Num.ge (kAt O bg (bsC O t) (bsH O t) m) v = true) :
    ∃ r, binarySearch O t bg thr target = some r ∧ Num.ge (O.contrast r bg) v = true ∧
      InTol O t thr r := by
  obtain ⟨m, hm, hA, hk⟩ := hprobe
  have inv := binarySearch_invC O t bg thr target (lt_of_lt_of_le' hpos hv)
  have hvC : Num.le v (bsFinal O t bg thr target).bestC = true := by
    rcases inv.max.2 m hm hA with h1 | h1
    · exact le_trans' hk h1
    · exact le_trans' hv h1
  rw [binarySearch_eq_bsFinal]
  cases hb : (bsFinal O t bg thr target).best with
  | none =>
    -- nothing recorded: the recorded contrast is still `0.0`, below `v`
    rw [inv.max.1 hb] at hvC
    have := not_lt_of_le hvC
    rw [hpos] at this; cases this
  | some r =>
    obtain ⟨m', _, h1, h2, h3, _⟩ := inv.recorded r hb
    refine ⟨r, rfl, ?_, ?_⟩
    · rw [h3] at hvC; rw [h1]; exact hvC
    · rw [h1]; exact h2

theorem genAccessible_origin (O : Leaf α) (d : Descend α) (t bg : RGB) (target minC : α)
    (sched : List α) :
    genAccessible O d t bg target minC sched = t ∨
    ∃ thr ∈ sched, PhaseRes O d t bg target thr (genAccessible O d t bg target minC sched) :=
  Cm.genAccessible_origin O d t bg target minC sched

/-- the result meets the target, or the loop stopped after a prefix `pre` of the schedule (exhausted, or early termination on a
    colour meeting the minimum) and the result is the best seen: at least the input's contrast and that of **every** phase result
    of every entry in `pre` -/
theorem genAccessible_returns_target_or_best [LawfulNumOrd α] (O : Leaf α) (d : Descend α)
    (t bg : RGB) (target minC : α) (sched : List α) :
    Num.ge (O.contrast (genAccessible O d t bg target minC sched) bg) target = true ∨
    ∃ pre post, sched = pre ++ post ∧
      (post = [] ∨ Num.ge (O.contrast (genAccessible O d t bg target minC sched) bg) minC = true) ∧
      Num.le (O.contrast t bg) (O.contrast (genAccessible O d t bg target minC sched) bg) = true ∧
      ∀ thr ∈ pre, ∀ b, PhaseRes O d t bg target thr b →
        Num.le (O.contrast b bg) (O.contrast (genAccessible O d t bg target minC sched) bg) = true := by
  by_cases hc : Num.ge (O.contrast t bg) target = true
  · rw [genAccessible_of_ge O d t bg target minC sched hc]; exact Or.inl hc
  · rw [genAccessible_of_not_ge O d t bg target minC sched hc]
    exact genLoop_spec O d t bg target minC _ sched _ (GMax.init O t bg _)

/-- if ANY phase result at ANY entry of the schedule meets the minimum, so does the final result: success can only be lost by
    never seeing a passing candidate -/
theorem gen_success_if_some_phase_meets_min [LawfulNumOrd α] (O : Leaf α) (d : Descend α)
    (t bg : RGB) (target minC : α) (sched : List α) (hmt : Num.le minC target = true)
    (thr : α) (hthr : thr ∈ sched) (b : RGB) (hb : PhaseRes O d t bg target thr b)
    (hk : Num.ge (O.contrast b bg) minC = true) :
    Num.ge (O.contrast (genAccessible O d t bg target minC sched) bg) minC = true := by
  rcases genAccessible_returns_target_or_best O d t bg target minC sched with h | ⟨pre, post, e, h1, _, h3⟩
  · exact le_trans' hmt h
  · rcases h1 with rfl | h1
    · -- the whole schedule was processed: the result dominates that phase result
      rw [List.append_nil] at e; subst e
      exact le_trans' hk (h3 thr hthr b hb)
    · exact h1

theorem genAccessible_success_of_bs [LawfulNumOrd α] (O : Leaf α) (d : Descend α)
    (t bg : RGB) (target minC : α) (sched : List α) (hmt : Num.le minC target = true)
    (thr : α) (hthr : thr ∈ sched) (r : RGB) (hr : binarySearch O t bg thr target = some r)
    (hk : Num.ge (O.contrast r bg) target = true) :
    Num.ge (O.contrast (genAccessible O d t bg target minC sched) bg) minC = true :=
  gen_success_if_some_phase_meets_min O d t bg target minC sched hmt thr hthr r (Or.inl hr)
    (le_trans' hmt hk)

/-- with the text below the minimum, a phase result meeting the minimum at an entry `thr ≤ 2.5` of a schedule ending `≤ 5.0`
    makes the search return **at or before that entry**, hence within one of the tolerances up to `thr` -/
theorem gen_early_within [LawfulNumOrd α] (O : Leaf α) (d : Descend α) (t bg : RGB) (target minC : α)
    (hcur : Num.ge (O.contrast t bg) minC = false) (hmt : Num.le minC target = true)
    (pre : List α) (thr : α) (post : List α)
    (h1 : Num.le thr (2.5 : α) = true)
    (h2 : Num.le ((pre ++ thr :: post).getLastD (0.0 : α)) (5.0 : α) = true)
    (b : RGB) (hb : PhaseRes O d t bg target thr b) (hk : Num.ge (O.contrast b bg) minC = true) :
    Num.ge (O.contrast (genAccessible O d t bg target minC (pre ++ thr :: post)) bg) minC = true ∧
    Within O t (pre ++ [thr]) (genAccessible O d t bg target minC (pre ++ thr :: post)) := by
  refine ⟨gen_success_if_some_phase_meets_min O d t bg target minC _ hmt thr (by simp) b hb hk, ?_⟩
  simp only [genAccessible]
  split
  · exact Or.inl rfl
  · -- the loop returns at or before `thr`, so it is the loop on `pre ++ [thr]`, whose result is the text
    -- or a phase result at one of these entries
    rw [genLoop_cut O d t bg target minC _ hcur pre thr post h1 h2 b hb hk _ (GMax.init O t bg _)]
    rcases genLoop_origin_init O d t bg target minC ((pre ++ thr :: post).getLastD (0.0 : α)) (pre ++ [thr])
        O.inf with h | ⟨x, hm, h⟩
    · exact Or.inl h
    · exact Or.inr ⟨x, hm, phaseRes_inTol O d t bg target x _ h⟩

/-- "the text itself, or a valid colour within CIEDE2000 2.0 of it" (`CmProps.C04.Step O 2.0 t r`; C04 is not imported) -/
def Close (O : Leaf α) (t r : RGB) : Prop :=
  r = t ∨ (O.validRgb r = true ∧ Num.le (O.deltaE t r) (2.0 : α) = true)

theorem close_of_within [LawfulNumOrd α] (O : Leaf α) (t r : RGB) (W : List α)
    (hW : ∀ x ∈ W, Num.le x (2.0 : α) = true) (h : Within O t W r) : Close O t r :=
  h.bound hW

/-- the entries up to `1.6`, written as `gen_early_within` leaves them (`pre ++ [thr]`), are within the property's bound `2.0`
    (`1.6 ≤ 2.5` below is `earlyTerm`'s tolerance cap) -/
theorem upTo16_le_2 [LawfulLit α] : ∀ x ∈ ([0.8, 1.0, 1.2, 1.4] ++ [1.6] : List α), Num.le x (2.0 : α) = true :=
  tenths_le [8, 10, 12, 14, 16] 20 (by decide)

section lit
variable [LawfulNumOrd α] [LawfulLit α]

/-- `1.6` is the first entry, of both schedules the modes use, above the witness's `1.5` -/
theorem gen_entry16 (O : Leaf α) (d : Descend α) (t bg : RGB) (target minC : α) (post : List α)
    (hcur : Num.ge (O.contrast t bg) minC = false) (hmt : Num.le minC target = true)
    (h2 : Num.le (([0.8, 1.0, 1.2, 1.4] ++ (1.6 : α) :: post).getLastD (0.0 : α)) (5.0 : α) = true)
    (b : RGB) (hb : PhaseRes O d t bg target (1.6 : α) b)
    (hk : Num.ge (O.contrast b bg) minC = true) :
    Num.ge (O.contrast (genAccessible O d t bg target minC ([0.8, 1.0, 1.2, 1.4] ++ (1.6 : α) :: post)) bg)
      minC = true ∧
    Close O t (genAccessible O d t bg target minC ([0.8, 1.0, 1.2, 1.4] ++ (1.6 : α) :: post)) := by
  have h := gen_early_within O d t bg target minC hcur hmt [0.8, 1.0, 1.2, 1.4] (1.6 : α) post
    (LawfulLit.lit_le 16 1 25 1 (by decide)) h2 b hb hk
  exact ⟨h.1, close_of_within O t _ _ upTo16_le_2 h.2⟩

theorem gen_default_entry16 (O : Leaf α) (d : Descend α) (t bg : RGB) (target minC : α)
    (hcur : Num.ge (O.contrast t bg) minC = false) (hmt : Num.le minC target = true)
    (b : RGB) (hb : PhaseRes O d t bg target (1.6 : α) b)
    (hk : Num.ge (O.contrast b bg) minC = true) :
    Num.ge (O.contrast (genAccessible O d t bg target minC defaultSchedule) bg) minC = true ∧
    Close O t (genAccessible O d t bg target minC defaultSchedule) :=
  -- `defaultSchedule` is, by `rfl`, `[0.8, 1.0, 1.2, 1.4] ++ 1.6 :: post` with this `post`; its last entry is `5.0` itself
  gen_entry16 O d t bg target minC [1.8, 2.0, 2.1, 2.2, 2.3, 2.4, 2.5, 2.7, 3.0, 3.5, 4.0, 5.0] hcur hmt (le_rfl' _) b hb hk

theorem gen_step_entry16 (O : Leaf α) (d : Descend α) (t bg : RGB) (target minC : α)
    (hcur : Num.ge (O.contrast t bg) minC = false) (hmt : Num.le minC target = true)
    (b : RGB) (hb : PhaseRes O d t bg target (1.6 : α) b)
    (hk : Num.ge (O.contrast b bg) minC = true) :
    Num.ge (O.contrast (genAccessible O d t bg target minC stepSchedule) bg) minC = true ∧
    Close O t (genAccessible O d t bg target minC stepSchedule) :=
  -- `stepSchedule` is, by `rfl`, `[0.8, 1.0, 1.2, 1.4] ++ 1.6 :: post` with this `post`; its last entry `3.0` is `≤ 5.0`
  gen_entry16 O d t bg target minC [1.8, 2.0, 2.2, 2.5, 2.8, 3.0] hcur hmt (LawfulLit.lit_le 30 1 50 1 (by decide)) b hb hk

end lit

theorem strict_success_if_seen [LawfulNumOrd α] (O : Leaf α) (d : Descend α) (t bg : RGB)
    (target minC : α) (hmt : Num.le minC target = true)
    (thr : α) (hthr : thr ∈ (defaultSchedule : List α)) (b : RGB)
    (hb : PhaseRes O d t bg target thr b) (hk : Num.ge (O.contrast b bg) minC = true) :
    (strategyStrict O d t bg target minC).2 = true :=
  gen_success_if_some_phase_meets_min O d t bg target minC defaultSchedule hmt thr hthr b hb hk

/-- mode 1 returns what its first multi-phase step returns if that meets the minimum -/
theorem recursive_success_first_step (O : Leaf α) (d : Descend α) (t bg : RGB) (target minC : α)
    (hcur : Num.ge (O.contrast t bg) minC = false)
    (hnext : Num.ge (O.contrast (genAccessible O d t bg target minC stepSchedule) bg) minC = true) :
    strategyRecursive O d t bg target minC = (genAccessible O d t bg target minC stepSchedule, true) :=
  recursiveLoop_first_step O d bg target minC 9 t hcur hnext

/-- for the flag alone `hcur` is not needed: a start that passes is returned with `true` as well -/
theorem recursive_success_first_step' (O : Leaf α) (d : Descend α) (t bg : RGB) (target minC : α)
    (hnext : Num.ge (O.contrast (genAccessible O d t bg target minC stepSchedule) bg) minC = true) :
    (strategyRecursive O d t bg target minC).2 = true :=
  recursiveLoop_flag_of_first_step O d bg target minC 9 t hnext

theorem recursive_success_if_seen [LawfulNumOrd α] (O : Leaf α) (d : Descend α) (t bg : RGB)
    (target minC : α) (hmt : Num.le minC target = true)
    (thr : α) (hthr : thr ∈ (stepSchedule : List α)) (b : RGB)
    (hb : PhaseRes O d t bg target thr b) (hk : Num.ge (O.contrast b bg) minC = true) :
    (strategyRecursive O d t bg target minC).2 = true :=
  recursive_success_first_step' O d t bg target minC
    (gen_success_if_some_phase_meets_min O d t bg target minC stepSchedule hmt thr hthr b hb hk)

theorem relaxed_success_first_step (O : Leaf α) (d : Descend α) (t bg : RGB) (target minC : α)
    (hcur : Num.ge (O.contrast t bg) minC = false)
    (hnext : Num.ge (O.contrast (genAccessible O d t bg target minC stepSchedule) bg) minC = true) :
    strategyRelaxed O d t bg target minC = (genAccessible O d t bg target minC stepSchedule, true) := by
  have h := recursive_success_first_step O d t bg target minC hcur hnext
  rw [CmProps.C16.relaxed_of_recursive O d t bg target minC (by rw [h]), h]

theorem relaxed_success_if_seen [LawfulNumOrd α] (O : Leaf α) (d : Descend α) (t bg : RGB)
    (target minC : α) (hmt : Num.le minC target = true)
    (thr : α) (hthr : thr ∈ (stepSchedule : List α)) (b : RGB)
    (hb : PhaseRes O d t bg target thr b) (hk : Num.ge (O.contrast b bg) minC = true) :
    (strategyRelaxed O d t bg target minC).2 = true := by
  have h := recursive_success_if_seen O d t bg target minC hmt thr hthr b hb hk
  rw [CmProps.C16.relaxed_of_recursive O d t bg target minC h]; exact h

section lit
variable [LawfulNumOrd α] [LawfulLit α]

theorem min_le_target (large premium : Bool) :
    Num.le (thresholds (α := α) large premium).1 (thresholds (α := α) large premium).2 = true := by
  cases large <;> cases premium
  · exact LawfulLit.lit_le 45 1 70 1 (by decide)
  · exact le_rfl' _
  · exact LawfulLit.lit_le 30 1 45 1 (by decide)
  · exact le_rfl' _

theorem strategies_C03_of_seen (O : Leaf α) (d : Descend α) (t bg : RGB) (target minC : α)
    (hcur : Num.ge (O.contrast t bg) minC = false) (hmt : Num.le minC target = true)
    (b : RGB) (hb : PhaseRes O d t bg target (1.6 : α) b)
    (hk : Num.ge (O.contrast b bg) minC = true) :
    ((strategyStrict O d t bg target minC).2 = true ∧ Close O t (strategyStrict O d t bg target minC).1) ∧
    ((strategyRecursive O d t bg target minC).2 = true ∧
      Close O t (strategyRecursive O d t bg target minC).1) ∧
    ((strategyRelaxed O d t bg target minC).2 = true ∧
      Close O t (strategyRelaxed O d t bg target minC).1) := by
  have h0 := gen_default_entry16 O d t bg target minC hcur hmt b hb hk
  have h1 := gen_step_entry16 O d t bg target minC hcur hmt b hb hk
  refine ⟨h0, ?_, ?_⟩
  · rw [recursive_success_first_step O d t bg target minC hcur h1.1]; exact ⟨rfl, h1.2⟩
  · rw [relaxed_success_first_step O d t bg target minC hcur h1.1]; exact ⟨rfl, h1.2⟩

/-- `check_and_fix_contrast`, every mode (any integer) and setting: a phase result at tolerance `1.6` meeting the minimum ⇒
    success, with the text itself or a valid colour within CIEDE2000 2.0 of it -/
theorem checkAndFix_C03_of_seen (O : Leaf α) (d : Descend α) (t bg : RGB) (large premium : Bool)
    (mode : Int) (b : RGB)
    (hb : PhaseRes O d t bg (thresholds (α := α) large premium).2 (1.6 : α) b)
    (hk : Num.ge (O.contrast b bg) (thresholds (α := α) large premium).1 = true) :
    (checkAndFix O d t bg large mode premium).2 = true ∧
    Close O t (checkAndFix O d t bg large mode premium).1 := by
  refine checkAndFix_rule O d t bg large mode premium (fun r => r.2 = true ∧ Close O t r.1)
    (fun _ => ⟨rfl, Or.inl rfl⟩) fun hcur => ?_
  obtain ⟨h0, h1, h2⟩ := strategies_C03_of_seen O d t bg _ _ hcur (min_le_target large premium) b hb hk
  rintro S (rfl | rfl | rfl)
  · exact h0
  · exact h2
  · exact h1

/-- the same, from what the bisection at tolerance `1.6` **probes** -/
theorem checkAndFix_C03_of_probe (O : Leaf α) (d : Descend α) (t bg : RGB) (large premium : Bool)
    (mode : Int) (hpos : Num.lt (0.0 : α) (thresholds (α := α) large premium).1 = true)
    (hprobe : ∃ m ∈ bsProbes O t bg (1.6 : α) (thresholds (α := α) large premium).2,
      Acc O t (1.6 : α) (bsC O t) (bsH O t) m ∧
      Num.ge (kAt O bg (bsC O t) (bsH O t) m) (thresholds (α := α) large premium).1 = true) :
    (checkAndFix O d t bg large mode premium).2 = true ∧
    Close O t (checkAndFix O d t bg large mode premium).1 := by
  obtain ⟨r, hr, hk, _⟩ := binarySearch_ge_of_probe O t bg (1.6 : α) _ _ hpos
    (min_le_target large premium) hprobe
  exact checkAndFix_C03_of_seen O d t bg large premium mode r (Or.inl hr) hk

end lit

/-! The three numeric hypotheses about the leaves along the searched lightness interval `I` (from the text's lightness to 1.0 when
searching up, from 0.0 to it when searching down) from which `ProbeHyp` follows:

* `Mono` — `MonoOn.acc_towards`: in-tolerance is inherited towards the text; `MonoOn.k_away`: `k` does not decrease away from it.
  Then the band is an interval, every probe below it is in tolerance and below the target (the loop moves away from the text),
  every probe beyond it is out of tolerance (the loop moves towards the text), so a probe that misses the band keeps the whole
  band inside `[low, high]`.
* `DirOK` — the side chosen by `searchUp` (away from the background's lightness) is the side on which `k` grows, i.e. `k_away`
  holds for the `up` the code computes, and the witness lies on that side. On the other side the loop never looks.
* `Res` — the band is wider than what 20 halvings leave: it contains two points that the final interval cannot both contain. The
  0.05 margin and the 1.5-vs-1.6 margin are what make the band wide: with `k` `K`-Lipschitz the band at tolerance 1.6 and level
  `minimum` contains `[L* − 0.05/K, L*]`.
-/

/-- **C03 as worded. A definition — NOT claimed as a theorem.** -/
def C03_full (O : Leaf α) (d : Descend α) : Prop :=
  ∀ (t bg : RGB) (large premium : Bool) (mode : Int),
    (∃ L : α, Acc O t (1.5 : α) (bsC O t) (bsH O t) L ∧
      Num.ge (kAt O bg (bsC O t) (bsH O t) L)
        ((thresholds (α := α) large premium).1 + (0.05 : α)) = true) →
    (checkAndFix O d t bg large mode premium).2 = true ∧
    Num.le (O.deltaE t (checkAndFix O d t bg large mode premium).1) (2.0 : α) = true

/-- the one numeric hypothesis: when the witness exists, a probe of the bisection at tolerance 1.6 lands in the band -/
def ProbeHyp (O : Leaf α) : Prop :=
  ∀ (t bg : RGB) (large premium : Bool),
    Num.ge (O.contrast t bg) (thresholds (α := α) large premium).1 = false →
    (∃ L : α, Acc O t (1.5 : α) (bsC O t) (bsH O t) L ∧
      Num.ge (kAt O bg (bsC O t) (bsH O t) L)
        ((thresholds (α := α) large premium).1 + (0.05 : α)) = true) →
    ∃ m ∈ bsProbes O t bg (1.6 : α) (thresholds (α := α) large premium).2,
      Acc O t (1.6 : α) (bsC O t) (bsH O t) m ∧
      Num.ge (kAt O bg (bsC O t) (bsH O t) m) (thresholds (α := α) large premium).1 = true

/-- the same one step later: the lightness search at tolerance 1.6 returns a colour meeting the minimum -/
def SeenHyp (O : Leaf α) : Prop :=
  ∀ (t bg : RGB) (large premium : Bool),
    Num.ge (O.contrast t bg) (thresholds (α := α) large premium).1 = false →
    (∃ L : α, Acc O t (1.5 : α) (bsC O t) (bsH O t) L ∧
      Num.ge (kAt O bg (bsC O t) (bsH O t) L)
        ((thresholds (α := α) large premium).1 + (0.05 : α)) = true) →
    ∃ r, binarySearch O t bg (1.6 : α) (thresholds (α := α) large premium).2 = some r ∧
      Num.ge (O.contrast r bg) (thresholds (α := α) large premium).1 = true

theorem seenHyp_of_probeHyp [LawfulNumOrd α] [LawfulLit α] (O : Leaf α) (hprobe : ProbeHyp O)
    (hpos : ∀ large premium, Num.lt (0.0 : α) (thresholds (α := α) large premium).1 = true) :
    SeenHyp O := by
  intro t bg large premium hcur hw
  obtain ⟨r, hr, hk, _⟩ := binarySearch_ge_of_probe O t bg (1.6 : α) _ _ (hpos large premium)
    (min_le_target large premium) (hprobe t bg large premium hcur hw)
  exact ⟨r, hr, hk⟩

theorem C03_full_of_seenHyp [LawfulNumOrd α] [LawfulLit α] (O : Leaf α) (d : Descend α)
    (hseen : SeenHyp O) (hself : ∀ t, Num.le (O.deltaE t t) (2.0 : α) = true) :
    C03_full O d := by
  intro t bg large premium mode hw
  have close_le : ∀ r, Close O t r → Num.le (O.deltaE t r) (2.0 : α) = true := by
    intro r hr
    rcases hr with rfl | ⟨_, h⟩
    · exact hself _
    · exact h
  by_cases hc : Num.ge (O.contrast t bg) (thresholds (α := α) large premium).1 = true
  · have e := CmProps.C02.already_ok_identity O d t bg large premium mode hc
    rw [e]; exact ⟨rfl, hself t⟩
  · obtain ⟨r, hr, hk⟩ := hseen t bg large premium (Bool.eq_false_iff.2 hc) hw
    obtain ⟨h1, h2⟩ := checkAndFix_C03_of_seen O d t bg large premium mode r (Or.inl hr) hk
    exact ⟨h1, close_le _ h2⟩

/-- the reduction of the property as worded to `ProbeHyp` -/
theorem C03_full_of_probeHyp [LawfulNumOrd α] [LawfulLit α] (O : Leaf α) (d : Descend α)
    (hprobe : ProbeHyp O)
    (hpos : ∀ large premium, Num.lt (0.0 : α) (thresholds (α := α) large premium).1 = true)
    (hself : ∀ t, Num.le (O.deltaE t t) (2.0 : α) = true) :
    C03_full O d :=
  C03_full_of_seenHyp O d (seenHyp_of_probeHyp O hprobe hpos) hself

theorem miss_brackets_band [LawfulNumOrd α] (O : Leaf α) (t bg : RGB) (thr target c h : α)
    (up : Bool) (I : α → Prop) (hmono : MonoOn O t bg thr c h up I)
    (v : α) (hv : Num.le v target = true) (L : α) (hI : I L) (hL : Hit O t bg thr c h v L)
    (n : Nat) (s : BS α)
    (hIm : ∀ m ∈ (bsLoopTrace O t bg thr target c h up n s).2, I m)
    (hmiss : ∀ m ∈ (bsLoopTrace O t bg thr target c h up n s).2, ¬ Hit O t bg thr c h v m)
    (hb : Brackets s L) :
    Brackets (bsLoop O t bg thr target c h up n s) L :=
  Cm.miss_brackets_band O t bg thr target c h up I hmono v hv L hI hL n s hIm hmiss hb

/-- `Res` in its abstract form: a band point that the final interval does not contain proves that some probe hit the band -/
theorem hit_of_unbracketed [LawfulNumOrd α] (O : Leaf α) (t bg : RGB) (thr target c h : α)
    (up : Bool) (I : α → Prop) (hmono : MonoOn O t bg thr c h up I)
    (v : α) (hv : Num.le v target = true) (L : α) (hI : I L) (hL : Hit O t bg thr c h v L)
    (n : Nat) (s : BS α)
    (hIm : ∀ m ∈ (bsLoopTrace O t bg thr target c h up n s).2, I m)
    (hb : Brackets s L) (hnb : ¬ Brackets (bsLoop O t bg thr target c h up n s) L) :
    ∃ m ∈ (bsLoopTrace O t bg thr target c h up n s).2, Hit O t bg thr c h v m := by
  apply Classical.byContradiction
  intro hno
  exact hnb (miss_brackets_band O t bg thr target c h up I hmono v hv L hI hL n s hIm
    (fun m hm hh => hno ⟨m, hm, hh⟩) hb)

/-- `Mono` + `DirOK` + `Res` ⇒ the lightness search returns an in-tolerance colour of contrast `≥ v` -/
theorem binarySearch_complete_of_mono_res [LawfulNumOrd α] (O : Leaf α) (t bg : RGB) (thr target v : α)
    (hpos : Num.lt (0.0 : α) v = true) (hv : Num.le v target = true)
    (I : α → Prop) (hmono : MonoOn O t bg thr (bsC O t) (bsH O t) (bsUp O t bg) I)
    (hIm : ∀ m ∈ bsProbes O t bg thr target, I m)
    (L : α) (hI : I L) (hL : Hit O t bg thr (bsC O t) (bsH O t) v L)
    (hb : Brackets (bsStart O t bg) L)
    (hres : ¬ Brackets (bsLoop O t bg thr target (bsC O t) (bsH O t) (bsUp O t bg) 20
      (bsStart O t bg)) L) :
    ∃ r, binarySearch O t bg thr target = some r ∧ Num.ge (O.contrast r bg) v = true ∧
      InTol O t thr r := by
  obtain ⟨m, hm, hA, hk⟩ := hit_of_unbracketed O t bg thr target _ _ _ I hmono v hv L hI hL 20
    (bsStart O t bg) hIm hb hres
  exact binarySearch_ge_of_probe O t bg thr target v hpos hv ⟨m, hm, hA, hk⟩

section field
variable {F : Type} [Field F] [LinearOrder F] [IsStrictOrderedRing F] {N : Num F}

/-- `Res` made concrete: `n` iterations leave width `(high − low) / 2ⁿ` -/
theorem bsLoop_width (FC : FieldCarrier N) (O : Leaf F) (t bg : RGB) (thr target c h : F) (up : Bool)
    (n : Nat) (s : BS F) (hs : s.low ≤ s.high) :
    s.low ≤ (@bsLoop F N O t bg thr target c h up n s).low ∧
    (@bsLoop F N O t bg thr target c h up n s).low ≤ (@bsLoop F N O t bg thr target c h up n s).high ∧
    (@bsLoop F N O t bg thr target c h up n s).high ≤ s.high ∧
    (@bsLoop F N O t bg thr target c h up n s).high - (@bsLoop F N O t bg thr target c h up n s).low
      = (s.high - s.low) / 2 ^ n ∧
    ∀ m ∈ (@bsLoopTrace F N O t bg thr target c h up n s).2, s.low ≤ m ∧ m ≤ s.high := by
  obtain ⟨hshr, hprobes⟩ := bsLoop_shrunk FC O t bg thr target c h up n s hs
  exact ⟨hshr.low_le, hshr.le, hshr.high_le, hshr.width, hprobes⟩

/-- **`Mono` + `DirOK` + `Res` ⇒ a probe hits the band.** `I` is the starting interval `[s.low, s.high]`; the band contains two
    points `a`, `b` of it further apart than the width left after `n` halvings. -/
theorem bs_hit_of_wide_band (FC : FieldCarrier N) (O : Leaf F) (t bg : RGB) (thr target c h : F)
    (up : Bool) (v : F) (hv : v ≤ target) (n : Nat) (s : BS F)
    (hs : s.low ≤ s.high)
    (hmono : @MonoOn F N O t bg thr c h up (fun x => s.low ≤ x ∧ x ≤ s.high))
    (a b : F) (ha : s.low ≤ a) (hb : b ≤ s.high)
    (hHa : @Hit F N O t bg thr c h v a) (hHb : @Hit F N O t bg thr c h v b)
    (hres : (s.high - s.low) / 2 ^ n < b - a) :
    ∃ m ∈ (@bsLoopTrace F N O t bg thr target c h up n s).2, @Hit F N O t bg thr c h v m := by
  obtain ⟨_, wle, _, wwidth, wprobes⟩ := bsLoop_width FC O t bg thr target c h up n s hs
  -- the final interval is too narrow to hold both band points
  have hfin : (@bsLoop F N O t bg thr target c h up n s).high - (@bsLoop F N O t bg thr target c h up n s).low
      < b - a := wwidth ▸ hres
  -- `b - a` exceeds a width, so `a ≤ b`, and both points lie in the starting interval
  have hab : a ≤ b := (sub_pos.1 ((sub_nonneg.2 wle).trans_lt hfin)).le
  have hIa : s.low ≤ a ∧ a ≤ s.high := ⟨ha, le_trans hab hb⟩
  have hIb : s.low ≤ b ∧ b ≤ s.high := ⟨le_trans ha hab, hb⟩
  -- a band point of the starting interval that the final interval does not hold proves a hit
  have hit : ∀ L, (s.low ≤ L ∧ L ≤ s.high) → @Hit F N O t bg thr c h v L →
      ¬ @Brackets F N (@bsLoop F N O t bg thr target c h up n s) L →
      ∃ m ∈ (@bsLoopTrace F N O t bg thr target c h up n s).2, @Hit F N O t bg thr c h v m := fun L hI hL hnb =>
    @hit_of_unbracketed F N FC.lawful O t bg thr target c h up _ hmono v ((FC.le_iff _ _).2 hv) L hI hL n s
      (hIm := wprobes) (hb := ⟨(FC.le_iff _ _).2 hI.1, (FC.le_iff _ _).2 hI.2⟩) (hnb := hnb)
  by_cases hBa : @Brackets F N (@bsLoop F N O t bg thr target c h up n s) a
  · refine hit b hIb hHb fun hBb => ?_
    have h1 := (FC.le_iff _ _).1 hBa.1
    have h2 := (FC.le_iff _ _).1 hBb.2
    exact lt_irrefl _ ((sub_le_sub h2 h1).trans_lt hfin)
  · exact hit a hIa hHa hBa

/-- the lightness search is complete relative to `BandHyp` -/
theorem binarySearch_complete (FC : FieldCarrier N) (O : Leaf F) (t bg : RGB) (thr target v : F)
    (hpos : 0 < v) (hv : v ≤ target) (H : BandHyp (N := N) O t bg thr v) :
    ∃ r, @binarySearch F N O t bg thr target = some r ∧ v ≤ O.contrast r bg ∧ @InTol F N O t thr r := by
  obtain ⟨a, b, ha, hb, hHa, hHb, hres⟩ := H.band
  obtain ⟨e1, e2⟩ := bsStart_low_high FC O t bg
  have hs : (@bsStart F N O t bg).low ≤ (@bsStart F N O t bg).high := by
    rw [e1, e2]; split
    · exact H.l_le
    · exact H.l_ge
  have hwid : (@bsStart F N O t bg).high - (@bsStart F N O t bg).low ≤ 1 := by
    rw [e1, e2]; split
    · exact sub_le_self 1 H.l_ge
    · rw [sub_zero]; exact H.l_le
  have hres' : ((@bsStart F N O t bg).high - (@bsStart F N O t bg).low) / 2 ^ 20 < b - a :=
    lt_of_le_of_lt (div_le_div_of_nonneg_right hwid (pow_pos two_pos 20).le) hres
  obtain ⟨m, hm, hA, hk⟩ := bs_hit_of_wide_band FC O t bg thr target _ _ (@bsUp F N O t bg) v hv 20
    (@bsStart F N O t bg) hs H.mono a b ha hb hHa hHb hres'
  obtain ⟨r, h1, h2, h3⟩ := @binarySearch_ge_of_probe F N FC.lawful O t bg thr target v
    (by rw [FC.lt_iff, FC.lit_zero]; exact hpos) ((FC.le_iff _ _).2 hv) ⟨m, hm, hA, hk⟩
  exact ⟨r, h1, (FC.le_iff _ _).1 h2, h3⟩

/-- `BandHyp` for every call the property talks about: text below the minimum, witness exists, band at tolerance 1.6 and level
    `minimum`. `N` is an argument here, not an instance, so the literals are written out: `ofScientific 15 true 1`, `5 true 2`,
    `16 true 1` are `1.5`, `0.05`, `1.6`. -/
def BandHypAll (N : Num F) (O : Leaf F) : Prop :=
  ∀ (t bg : RGB) (large premium : Bool),
    @Num.ge F N (O.contrast t bg) (@thresholds F N large premium).1 = false →
    (∃ L : F, @Acc F N O t (@OfScientific.ofScientific F N.toOfScientific 15 true 1) (bsC O t) (bsH O t) L ∧
      @Num.ge F N (kAt O bg (bsC O t) (bsH O t) L)
        (@HAdd.hAdd F F F (@instHAdd F N.toAdd) (@thresholds F N large premium).1
          (@OfScientific.ofScientific F N.toOfScientific 5 true 2)) = true) →
    BandHyp (N := N) O t bg (@OfScientific.ofScientific F N.toOfScientific 16 true 1)
      (@thresholds F N large premium).1

theorem thresholds_bounds (FC : FieldCarrier N) (large premium : Bool) :
    (3 : F) ≤ (@thresholds F N large premium).1 ∧ (@thresholds F N large premium).1 ≤ 7 := by
  cases large <;> cases premium
  all_goals
    simp only [thresholds, Bool.false_eq_true, if_false, if_true, FC.sci_eq]
    norm_num

theorem thresholds_pos (FC : FieldCarrier N) (large premium : Bool) :
    (0 : F) < (@thresholds F N large premium).1 :=
  lt_of_lt_of_le three_pos (thresholds_bounds FC large premium).1

/-- **C03 as worded, at an exact carrier, relative to `Mono` + `DirOK` + `Res`** (and `ΔE(t, t) ≤ 2.0`) -/
theorem C03_full_of_bandHyp (FC : FieldCarrier N) (O : Leaf F) (d : Descend F)
    (H : BandHypAll N O) (hself : ∀ t, O.deltaE t t ≤ 2) :
    @C03_full F N O d := by
  refine @C03_full_of_seenHyp F N FC.lawful FC.lit O d ?_ ?_
  · intro t bg large premium hcur hw
    obtain ⟨r, h1, h2, _⟩ := binarySearch_complete FC O t bg _ (@thresholds F N large premium).2
      (@thresholds F N large premium).1 (thresholds_pos FC large premium)
      ((FC.le_iff _ _).1 (@min_le_target F N FC.lawful FC.lit large premium))
      (H t bg large premium hcur hw)
    exact ⟨r, h1, (FC.le_iff _ _).2 h2⟩
  · intro t
    rw [FC.le_iff, FC.sci_eq]
    have := hself t
    norm_num
    exact this

theorem C03_full_real (O : Leaf ℝ) (d : Descend ℝ) (H : BandHypAll realNum.toNum O)
    (hself : ∀ t, O.deltaE t t ≤ 2) : @C03_full ℝ realNum.toNum O d :=
  C03_full_of_bandHyp realFieldCarrier O d H hself

theorem C03_full_rat (O : Leaf ℚ) (d : Descend ℚ) (H : BandHypAll ratNum O)
    (hself : ∀ t, O.deltaE t t ≤ 2) : @C03_full ℚ ratNum O d :=
  C03_full_of_bandHyp ratFieldCarrier O d H hself

end field

/-! ## Non-vacuity: the hypotheses are satisfiable (exact rationals, constant leaves) -/

section examples

theorem ratLawful : @LawfulNumOrd ℚ ratNum := ratFieldCarrier.lawful

theorem rat_gt_false {a b : ℚ} (h : a ≤ b) : @Num.gt ℚ ratNum a b = false :=
  Bool.eq_false_iff.2 fun hx => not_lt.2 h ((rat_gt a b).1 hx)

/-- constant functions: every candidate is the same grey, at distance 1 from everything, with contrast 8 -/
def constLeaf : Leaf ℚ where
  contrast := fun _ _ => 8
  deltaE := fun _ _ => 1
  toOklch := fun _ => (1/2, 0, 0)
  ofOklch := fun _ => (100, 100, 100)
  validRgb := fun _ => true
  inf := 1000

theorem constLeaf_acc (L : ℚ) : @Acc ℚ ratNum constLeaf (0, 0, 0) (8/5) 0 0 L :=
  ⟨rfl, rat_gt_false (a := 1) (b := 8/5) (by norm_num)⟩

theorem constLeaf_meets (L : ℚ) : @Meets ℚ ratNum constLeaf (255, 255, 255) 7 0 0 L :=
  (rat_ge 8 7).2 (by norm_num)

/-- the hypothesis of `binarySearch_meets_target_of_probe` is satisfiable and its conclusion not vacuous -/
example : ∃ r, @binarySearch ℚ ratNum constLeaf (0, 0, 0) (255, 255, 255) (8/5) 7 = some r ∧
    @Num.ge ℚ ratNum (constLeaf.contrast r (255, 255, 255)) 7 = true ∧
    @InTol ℚ ratNum constLeaf (0, 0, 0) (8/5) r := by
  obtain ⟨r, h1, h2, h3, _⟩ := @binarySearch_meets_target_of_probe ℚ ratNum ratLawful constLeaf
    (0, 0, 0) (255, 255, 255) (8/5) 7 ((rat_lt _ _).2 (by rw [rat_sci]; norm_num))
    (by
      have hl := @bsProbes_length ℚ ratNum constLeaf (0, 0, 0) (255, 255, 255) (8/5) 7
      cases hp : @bsProbes ℚ ratNum constLeaf (0, 0, 0) (255, 255, 255) (8/5) 7 with
      | nil => rw [hp] at hl; cases hl
      | cons m rest => exact ⟨m, by simp, constLeaf_acc m, constLeaf_meets m⟩)
  exact ⟨r, h1, h2, h3⟩

/-- a concrete state satisfying `BSSeen`, and one iteration from it -/
example : @BSSeen ℚ ratNum constLeaf (0, 0, 0) (255, 255, 255) (8/5) 7 0 0 (fun x => x = 3/4)
    { low := 1/2, high := 3/4, best := some (100, 100, 100), bestDE := 1, bestC := 8 } :=
  Or.inr ⟨3/4, rfl, rfl, constLeaf_acc _, constLeaf_meets _, rfl, rfl,
    fun _ _ _ _ => (rat_le 1 1).2 (_root_.le_refl 1)⟩

example : @BSSeen ℚ ratNum constLeaf (0, 0, 0) (255, 255, 255) (8/5) 7 0 0
    (fun x => x = @bsMid ℚ ratNum
        { low := 1/2, high := 3/4, best := some (100, 100, 100), bestDE := 1, bestC := 8 } ∨ x = 3/4)
    (@bsStep ℚ ratNum constLeaf (0, 0, 0) (255, 255, 255) (8/5) 7 0 0 true
      { low := 1/2, high := 3/4, best := some (100, 100, 100), bestDE := 1, bestC := 8 }) :=
  @bsStep_seen ℚ ratNum constLeaf (0, 0, 0) (255, 255, 255) (8/5) 7 0 0 ratLawful true _ _
    (Or.inr ⟨3/4, rfl, rfl, constLeaf_acc _, constLeaf_meets _, rfl, rfl,
      fun _ _ _ _ => (rat_le 1 1).2 (_root_.le_refl 1)⟩)

example (up : Bool) : @MonoOn ℚ ratNum constLeaf (0, 0, 0) (255, 255, 255) (8/5) 0 0 up (fun _ => True) :=
  @MonoOn.mk ℚ ratNum constLeaf (0, 0, 0) (255, 255, 255) (8/5) 0 0 up (fun _ => True)
    (fun _ _ _ _ _ _ => constLeaf_acc _) (fun _ _ _ _ _ => (rat_le 8 8).2 (_root_.le_refl 8))

/-- the whole searched interval — of width 1/2 whichever way the code searches — is the band -/
theorem bandHyp_of_all_hit (O : Leaf ℚ) (t bg : RGB) (thr v : ℚ) (hl : (O.toOklch t).1 = 1/2)
    (hhit : ∀ L : ℚ, @Hit ℚ ratNum O t bg thr (bsC O t) (bsH O t) v L)
    (hk : ∀ x y : ℚ, @Num.le ℚ ratNum (kAt O bg (bsC O t) (bsH O t) x) (kAt O bg (bsC O t) (bsH O t) y) = true) :
    BandHyp (N := ratNum) O t bg thr v := by
  obtain ⟨e1, e2⟩ := bsStart_low_high ratFieldCarrier O t bg
  refine ⟨by rw [hl]; norm_num, by rw [hl]; norm_num,
    @MonoOn.mk ℚ ratNum O t bg thr _ _ _ _ (fun _ _ _ _ _ _ => (hhit _).1) (fun _ _ _ _ _ => hk _ _),
    ⟨_, _, _root_.le_refl _, _root_.le_refl _, hhit _, hhit _, ?_⟩⟩
  rw [e1, e2, hl]
  split <;> norm_num

theorem constLeaf_bandHyp : BandHyp (N := ratNum) constLeaf (0, 0, 0) (255, 255, 255) (8/5) 7 :=
  bandHyp_of_all_hit constLeaf _ _ _ _ rfl (fun _ => ⟨constLeaf_acc _, constLeaf_meets _⟩)
    (fun _ _ => (rat_le 8 8).2 (_root_.le_refl 8))

example : ∃ r, @binarySearch ℚ ratNum constLeaf (0, 0, 0) (255, 255, 255) (8/5) 7 = some r ∧
    (7 : ℚ) ≤ constLeaf.contrast r (255, 255, 255) := by
  obtain ⟨r, h1, h2, _⟩ := binarySearch_complete ratFieldCarrier constLeaf (0, 0, 0) (255, 255, 255)
    (8/5) 7 7 (by norm_num) (_root_.le_refl _) constLeaf_bandHyp
  exact ⟨r, h1, h2⟩

/-- a leaf where fixing is needed: every candidate is the grey `(100,100,100)`, of contrast 8 against anything; every other
    colour has contrast 1 -/
def greyLeaf : Leaf ℚ where
  contrast := fun r _ => if r = (100, 100, 100) then 8 else 1
  deltaE := fun _ _ => 1
  toOklch := fun _ => (1/2, 0, 0)
  ofOklch := fun _ => (100, 100, 100)
  validRgb := fun _ => true
  inf := 1000

theorem thresholds_le_8 (large premium : Bool) : (@thresholds ℚ ratNum large premium).1 ≤ 8 :=
  (thresholds_bounds ratFieldCarrier large premium).2.trans (by norm_num)

theorem greyLeaf_bandHypAll : BandHypAll ratNum greyLeaf := by
  intro t bg large premium _ _
  refine bandHyp_of_all_hit greyLeaf t bg _ _ rfl (fun L => ⟨⟨rfl, rat_gt_false (a := 1) ?_⟩, ?_⟩)
    (fun _ _ => (rat_le 8 8).2 (_root_.le_refl 8))
  · rw [(ratFieldCarrier).sci_eq]; norm_num
  · exact (rat_ge _ _).2 (thresholds_le_8 large premium)

/-- an instance of `C03_full` whose hypothesis is not vacuous (black on white is below every minimum there) -/
example (d : Descend ℚ) : @C03_full ℚ ratNum greyLeaf d :=
  C03_full_rat greyLeaf d greyLeaf_bandHypAll (fun _ => by show (1 : ℚ) ≤ 2; norm_num)

example : @Num.ge ℚ ratNum (greyLeaf.contrast (0, 0, 0) (255, 255, 255))
    (@thresholds ℚ ratNum false false).1 = false := by
  refine Bool.eq_false_iff.2 fun hx => ?_
  -- its contrast there is 1, and no minimum is below 3
  have hc : greyLeaf.contrast (0, 0, 0) (255, 255, 255) = 1 := by decide
  have hmin : (3 : ℚ) ≤ (@thresholds ℚ ratNum false false).1 := (thresholds_bounds ratFieldCarrier false false).1
  have hge : (@thresholds ℚ ratNum false false).1 ≤ greyLeaf.contrast (0, 0, 0) (255, 255, 255) := (rat_ge _ _).1 hx
  rw [hc] at hge
  exact absurd (hmin.trans hge) (by norm_num)

end examples

end CmProps.C03
