import CmProofs.SourceOpt
/-!
# C02 — the optimiser functions this property's theorems are about are the source's, as translated on this run

The equations of `CmProofs/SourceOpt.lean`, restated in this property's namespace.
-/
namespace CmProps.C02
open Cm Cm.SourceOpt
variable {α : Type} [Num α]

/-- `generate_accessible_color` (all optional arguments given) is the model's `genAccessible`, for any schedule -/
theorem source_generate_accessible_color (O : Leaf α) (d : Descend α) (t bg : RGB) (large : Bool) (target minC : α) (seq : List α) :
    CmGen.Opt.generate_accessible_color O (gdOf O d) t bg large target minC seq = genAccessible O d t bg target minC seq :=
  Cm.SourceOpt.source_generate_accessible_color O d t bg large target minC seq

theorem source_strategies (O : Leaf α) (d : Descend α) (t bg : RGB) (large : Bool) (target minC : α) :
    CmGen.Opt.strategy_strict O (gdOf O d) t bg large target minC = strategyStrict O d t bg target minC ∧
    CmGen.Opt.strategy_recursive O (gdOf O d) t bg large target minC = strategyRecursive O d t bg target minC ∧
    CmGen.Opt.strategy_relaxed O (gdOf O d) t bg large target minC = strategyRelaxed O d t bg target minC :=
  ⟨source_strategy_strict O d t bg large target minC, source_strategy_recursive O d t bg large target minC,
   source_strategy_relaxed O d t bg large target minC⟩

end CmProps.C02
