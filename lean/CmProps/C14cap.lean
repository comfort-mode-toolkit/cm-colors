import CmProps.C14total
import CmProps.C14api
import CmProps.C07whole
/-!
# C14 — the property, stated about the image of the source

The totality theorems of `C14total.lean` are about the model's `Color.new` / `ColorPair.new`; `C14api.lean` proves that
the definitions generated from `colors.py` on this run *are* those functions (once the colour argument is digested into
its `detect` / `parse` view, `Api.ofVal`), and `C07whole.lean` that the definition generated from `color_parser.py` is the
model's parser. Put together: the constructor, as the source reads now, lets no exception escape, for every value of the
modelled domain, every background context and every character-class oracle.
-/
namespace CmProps.C14
open Cm Cm.Parse
variable {α : Type} [NumT α]

/-- `Color(value, background_context)` as translated from the source never ends in the `raised` state -/
theorem source_color_never_raises (E : PEnv) (v : PyVal α) (ctx : Option (Color α)) (e : PyErr) :
    (CmGen.Api.Color_new (α := α) (Api.ofVal E v) ctx).state ≠ .raised e := by
  rw [source_color_parse]
  exact color_total E v ctx e

/-- nor does either colour of `ColorPair(text, bg, large)` -/
theorem source_pair_never_raises (E : PEnv) (t b : PyVal α) (large : Bool) (e : PyErr) :
    (CmGen.Api.ColorPair_new (α := α) (Api.ofVal E t) (Api.ofVal E b) large).text.state ≠ .raised e ∧
    (CmGen.Api.ColorPair_new (α := α) (Api.ofVal E t) (Api.ofVal E b) large).bg.state ≠ .raised e := by
  rw [source_color_pair_init]
  exact pair_total E t b large e

/-- the parser, as translated from the source (string branch, sequence branch and dispatch together), raises nothing but
    `ValueError` and `TypeError` -/
theorem source_parser_errors (E : PEnv) (v : PyVal α) (bg : Option RGB) (e : PyErr)
    (h : CmGen.ParserSeq.parse_color_to_rgb (CmGen.ParserSrc.parse_color_string (α := α) E) E v bg = .error e) :
    e = .valueError ∨ e = .typeError := by
  rw [CmProps.C07.source_parse_color_to_rgb] at h
  exact parseColor_errors E v bg e h

end CmProps.C14
