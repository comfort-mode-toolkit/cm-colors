import CmModel.ApiVocab
import CmGen.Api
import CmProofs.SourceApi
import CmProps.C12
import CmProps.C14api
import CmProps.C05api
import CmProps.C06api
import CmProps.C17
/-!
# C12 — the loop of `make_readable_bulk`, as translated from the source on this run, is the model's `Bulk.entry` / `Bulk.run`

`harness/translate/api.py` turns `for i, item in enumerate(pairs): …` into `make_readable_bulk__loop i item state` (state =
the effects so far, the number of report rows, `results`) folded by `Api.forEnum`, and the function around it.
Abstractions (documented in the translator): the model's `BulkItem` is the entry *after* `if len(item) == 3 … else …`;
here the unpacking is part of the image and the theorems are stated for the 3-sequence `Api.rawItem it` and for the
2-sequence `[text, bg]`; an entry of the returned list is `Api.reify it r` (`.original` = the caller's own `text`).

The image returns the list together with the effects; one unfolding gives both (`source_make_readable_bulk_full`), and
`C17.source_bulk_effects` (`C17bulk.lean`) is the second component. That half of C17 is proved here because the loop state
decides it: the call inside the loop is silent (`C17.silent_default`), and the report is written iff `rows` has counted a
valid entry (`rows_sum`).
-/
namespace CmProps.C12
open Cm Cm.Parse Cm.SourceApi
variable {α : Type} [NumT α]

/-- `Color(v, ctx)` on a value the library produced itself -/
theorem color_new_ofOut (E : PEnv) (out : OutVal α) (ctx : Option (Color α)) :
    (CmGen.Api.Color_new (α := α) (Api.ofOut E out) ctx).rgb? =
      (match out with
       | .hsl h s l => hslTextToRgb (h, s, l)
       | .text s => (Color.new (α := α) E (.str s) ctx).rgb?
       | .tuple c => (Color.new (α := α) E (.tuple [.int c.1, .int c.2.1, .int c.2.2]) ctx).rgb?) := by
  cases out with
  | text s => rw [Api.ofOut, C14.source_color_parse]
  | tuple c => rw [Api.ofOut, C14.source_color_parse]
  | hsl h s l =>
    simp only [C06.source_color_new_rgb, Api.ofOut]
    cases hslTextToRgb (h, s, l) <;> rfl

/-- `ColorPair(tuned, bg, large).is_readable.lower()`, the status the loop computes for a returned colour -/
theorem reread_status (E : PEnv) (bg : PyVal α) (large : Bool) (out : OutVal α) :
    (CmGen.Api.ColorPair_new (α := α) (Api.ofOut E out) (Api.ofVal E bg) large).isReadable.toLower =
      (match (match out with
              | .hsl h s l => hslTextToRgb (h, s, l)
              | .text s => (Color.new (α := α) E (.str s) (some (Color.new E bg none))).rgb?
              | .tuple c => (Color.new (α := α) E (.tuple [.int c.1, .int c.2.1, .int c.2.2]) (some (Color.new E bg none))).rgb?),
            (Color.new (α := α) E bg none).rgb? with
        | some t, some b => (wcagLevel (α := α) t b large).label.toLower
        | _, _ => "not readable") := by
  rw [isReadable_lower]
  unfold CmGen.Api.ColorPair_new
  simp only [color_new_ofOut, C14.source_color_parse]
  rfl

/-- the number of report rows an entry adds -/
def rows (E : PEnv) (save : Bool) (it : BulkItem α) : Nat :=
  if save && (ColorPair.new E it.text it.bg it.large).isValid then 1 else 0

/-- one pass through the loop body on `(text, bg, large)`, whatever Python value `large` is (the loop reads its truth
    value) -/
theorem source_bulk_entry_any (E : PEnv) (O : Leaf α) (d : Descend α) (cond : Nat → Bool) (mode : Int) (very save : Bool)
    (i : Nat) (it : BulkItem α) (lv : PyVal α) (hl : Api.valTruthy lv = it.large) (fx : List Effect) (n : Nat)
    (res : List (Api.BulkOut α)) :
    CmGen.Api.make_readable_bulk__loop E O d cond mode save very i [it.text, it.bg, lv] (fx, n, res) =
      .ok (fx, n + rows E save it, res ++ [Api.reify it (Bulk.entry E O d mode very it)]) := by
  unfold CmGen.Api.make_readable_bulk__loop
  simp only [List.length_cons, List.length_nil, Nat.zero_add, Nat.reduceAdd, BEq.rfl, if_true, Api.andThen, hl,
    C14.source_color_pair_init, C14.source_pair_is_valid, C06.source_make_readable, C17.silent_default, reread_status,
    C05.source_is_readable]
  unfold Bulk.entry rows
  cases hv : (ColorPair.new E it.text it.bg it.large).isValid
  · simp only [hv, Bool.not_false, Bool.and_false, Bool.false_eq_true, if_true, if_false]; rfl
  · cases hm : (ColorPair.new E it.text it.bg it.large).makeReadable E O d mode very with
    | none =>
      -- `if tuned_color:` cannot fail for a valid pair
      have h := makeReadable_isSome E O d (ColorPair.new E it.text it.bg it.large) mode very
      rw [hm, hv] at h; cases h
    | some r =>
      obtain ⟨out, ok⟩ := r
      simp only [hv, hm, C06.asPython, Option.filter, makeReadable_truthy E O d _ mode very out ok hm, List.append_nil,
        Bool.not_true, Bool.false_eq_true, if_true, if_false]
      -- both sides are the same `match`es under different auxiliary names: closed by unfolding, not by `simp`
      cases save <;> rfl

/-- one pass through the loop body on a 3-sequence is the model's `Bulk.entry`: no effects, one result appended, a report
    row counted when a report was asked for and the pair is valid -/
theorem source_bulk_entry (E : PEnv) (O : Leaf α) (d : Descend α) (cond : Nat → Bool) (mode : Int) (very save : Bool)
    (i : Nat) (it : BulkItem α) (fx : List Effect) (n : Nat) (res : List (Api.BulkOut α)) :
    CmGen.Api.make_readable_bulk__loop E O d cond mode save very i (Api.rawItem it) (fx, n, res) =
      .ok (fx, n + rows E save it, res ++ [Api.reify it (Bulk.entry E O d mode very it)]) :=
  source_bulk_entry_any E O d cond mode very save i it (.bool it.large) rfl fx n res

/-- a 2-sequence `(text, bg)` is the entry with `large = False` -/
theorem source_bulk_entry_pair (E : PEnv) (O : Leaf α) (d : Descend α) (cond : Nat → Bool) (mode : Int) (very save : Bool)
    (i : Nat) (text bg : PyVal α) (fx : List Effect) (n : Nat) (res : List (Api.BulkOut α)) :
    CmGen.Api.make_readable_bulk__loop E O d cond mode save very i [text, bg] (fx, n, res) =
      CmGen.Api.make_readable_bulk__loop E O d cond mode save very i (Api.rawItem ⟨text, bg, false⟩) (fx, n, res) := by
  unfold CmGen.Api.make_readable_bulk__loop Api.rawItem
  rfl

/-- the state after the loop: effects untouched, one report row per valid entry when a report was asked for, one result
    per entry in order -/
theorem bulk_loop_state (E : PEnv) (O : Leaf α) (d : Descend α) (cond : Nat → Bool) (mode : Int) (very save : Bool)
    (items : List (BulkItem α)) (i : Nat) (fx : List Effect) (n : Nat) (res : List (Api.BulkOut α)) :
    Api.forEnum (CmGen.Api.make_readable_bulk__loop E O d cond mode save very) i (items.map Api.rawItem) (fx, n, res) =
      .ok (fx, n + (items.map (rows E save)).sum,
           res ++ items.map (fun it => Api.reify it (Bulk.entry E O d mode very it))) := by
  induction items generalizing i n res with
  | nil => simp [Api.forEnum]
  | cons it its ih =>
    simp only [List.map_cons, Api.forEnum, source_bulk_entry, ih, List.sum_cons, List.append_assoc, List.cons_append,
      List.nil_append, Nat.add_assoc]

theorem rows_sum (E : PEnv) (items : List (BulkItem α)) :
    (items.map (rows E true)).sum =
      (items.filter fun it => (ColorPair.new E it.text it.bg it.large).isValid).length := by
  induction items with
  | nil => rfl
  | cons it its ih =>
    rw [List.map_cons, List.sum_cons, List.filter_cons, ih, rows, Bool.true_and]
    cases (ColorPair.new E it.text it.bg it.large).isValid
    · exact Nat.zero_add _
    · exact Nat.add_comm 1 _

/-- `make_readable_bulk(pairs, mode, very_readable, save_report)` on 3-sequences: the value and the effects -/
theorem source_make_readable_bulk_full (E : PEnv) (O : Leaf α) (d : Descend α) (cond : Nat → Bool) (mode : Int)
    (very save : Bool) (items : List (BulkItem α)) :
    CmGen.Api.make_readable_bulk E O d cond (items.map Api.rawItem) mode very save =
      .ok (items.map (fun it => Api.reify it (Bulk.entry E O d mode very it)),
           bulkEffects save (items.filter fun it => (ColorPair.new E it.text it.bg it.large).isValid).length) := by
  unfold CmGen.Api.make_readable_bulk bulkEffects
  simp only [bulk_loop_state, Api.andThen, Nat.zero_add, List.nil_append]
  cases save
  · rfl
  · rw [rows_sum]; split <;> rfl

/-- the returned list alone: never raises on well-formed entries, and is the model's `Bulk.run`, entry by entry -/
theorem source_make_readable_bulk (E : PEnv) (O : Leaf α) (d : Descend α) (cond : Nat → Bool) (mode : Int)
    (very save : Bool) (items : List (BulkItem α)) :
    Prod.fst <$> CmGen.Api.make_readable_bulk E O d cond (items.map Api.rawItem) mode very save =
      .ok (List.zipWith Api.reify items (Bulk.run E O d mode very items)) := by
  rw [source_make_readable_bulk_full, bulk_eq_map, List.zipWith_map_right, List.zipWith_self]; rfl

end CmProps.C12
