import CmModel.Hsl
import CmGen.Leaves
/-!
# C06 — the arithmetic of `rgb_to_hsl` and `hsl_to_rgb`, as translated from the source on this run, is the model's

Both helpers accept strings and tuples; what is translated is the numeric part after parsing and validation (the
statements from `r /= 255` to the `return` of `rgb_to_hsl`, and from `if s == 0:` to the `return` of `hsl_to_rgb`,
with its nested `f`). The format round trip `hsl_roundtrip_exact` is a theorem about exactly these functions.
-/
namespace CmProps.C06
open Cm
variable {α : Type} [NumT α]

/-- `rgb_to_hsl`: the three numbers it prints -/
theorem source_rgb_to_hsl_core (r g b : α) :
    CmGen.Leaves.rgb_to_hsl_core r g b =
      (let (h, s, l) := rgbToHsl r g b; (h, s * (100.0 : α), l * (100.0 : α))) := by
  unfold CmGen.Leaves.rgb_to_hsl_core rgbToHsl
  simp only []
  split <;> rfl

theorem source_rgb_to_hsl_text (c : RGB) :
    CmGen.Leaves.rgb_to_hsl_core (Num.ofInt c.1 : α) (Num.ofInt c.2.1) (Num.ofInt c.2.2) = rgbToHslText c := by
  rw [source_rgb_to_hsl_core]; rfl

/-- the nested `f(p, q, t)` of `hsl_to_rgb` -/
theorem source_hsl_f (p q t : α) : CmGen.Leaves.hsl_to_rgb_core__f p q t = hslF p q t := rfl

/-- `hsl_to_rgb` from the parsed, range-checked numbers -/
theorem source_hsl_to_rgb_core (h s l : α) : CmGen.Leaves.hsl_to_rgb_core h s l = hslToRgbCore h s l := by
  unfold CmGen.Leaves.hsl_to_rgb_core hslToRgbCore
  simp only [source_hsl_f]
  split <;> rfl

end CmProps.C06
