import CmModel.Fs
import CmProofs.CliTree
/-!
# File names and the per-file loop (`Cm.Fs`)

File names: `pathlib`'s stem and suffix on `x.css`, and that an output name is never an input name. The per-file loop in closed
form (`runFiles_eq`): outputs and reported names file by file, only the counters threaded; and how the counters grow over a run
(`runFiles_grew`).
-/
namespace Cm.Fs
open Cm Cm.Cli

theorem endsWith_iff (s p : Str) : endsWith s p = true ↔ ∃ t, s = t ++ p := by
  unfold endsWith
  rw [List.isPrefixOf_iff_prefix, List.reverse_prefix]
  constructor
  · rintro ⟨t, rfl⟩; exact ⟨t, rfl⟩
  · rintro ⟨t, rfl⟩; exact ⟨t, rfl⟩

theorem lastDot_go_append : (a b : Str) → (i : Nat) → (acc : Option Nat) →
    lastDot.go (a ++ b) i acc = lastDot.go b (i + a.length) (lastDot.go a i acc)
  | [], b, i, acc => by simp [lastDot.go]
  | c :: cs, b, i, acc => by
    simp only [List.cons_append, lastDot.go, List.length_cons]
    rw [lastDot_go_append cs b (i + 1)]
    congr 1; omega

theorem lastDot_css (t : Str) : lastDot (t ++ ".css".toList) = some t.length := by
  unfold lastDot
  rw [lastDot_go_append]
  simp [lastDot.go]

theorem stemSuffix_append (name : Str) : (stemSuffix name).1 ++ (stemSuffix name).2 = name := by
  unfold stemSuffix
  split
  · split <;> simp  -- `take i ++ drop i`, or `name ++ []`
  · simp

/-- `outName` with the pair taken apart by projections, as the generated text has it -/
theorem outName_eq (name : Str) : (stemSuffix name).1 ++ "_cm".toList ++ (stemSuffix name).2 = outName name := by
  unfold outName; cases stemSuffix name; rfl

theorem outName_length (name : Str) : (outName name).length = name.length + 3 := by
  have h := congrArg List.length (stemSuffix_append name)
  simp only [List.length_append] at h
  simp only [outName, List.length_append]
  have : "_cm".toList.length = 3 := rfl
  omega

/-- the tool never writes over its input -/
theorem outName_ne (name : Str) : outName name ≠ name := by
  intro h
  have := congrArg List.length h
  rw [outName_length] at this
  omega

theorem outName_css (t : Str) (ht : t ≠ []) : outName (t ++ ".css".toList) = t ++ "_cm.css".toList := by
  have hl : 0 < t.length := List.length_pos_iff.2 ht
  simp only [outName, stemSuffix, lastDot_css]
  have h1 : (0 < t.length ∧ t.length < (t ++ ".css".toList).length - 1) := by
    refine ⟨hl, ?_⟩
    simp only [List.length_append]
    have : ".css".toList.length = 4 := rfl
    omega
  rw [if_pos h1]
  simp only [List.take_left' rfl, List.drop_left' rfl]
  simp

theorem outName_dotcss : outName ".css".toList = ".css_cm".toList := by
  decide +kernel  -- plain `decide` works too, at several times the cost

theorem isCssName_append (t : Str) : isCssName (t ++ ".css".toList) = true :=
  (endsWith_iff _ _).2 ⟨t, rfl⟩

theorem isCssName_iff (name : Str) : isCssName name = true ↔ ∃ t, name = t ++ ".css".toList := endsWith_iff _ _

/-- without the last 4 characters (`.css`) -/
def dropExt (name : Str) : Str := name.take (name.length - 4)

theorem outName_of_css (name : Str) (h : isCssName name = true) (hl : name.length > 4) :
    outName name = dropExt name ++ "_cm.css".toList := by
  obtain ⟨t, rfl⟩ := (isCssName_iff name).1 h
  have ht : t ≠ [] := by
    intro h0; subst h0; simp at hl
  rw [outName_css t ht]
  unfold dropExt
  have : (t ++ ".css".toList).length - 4 = t.length := by simp
  rw [this, List.take_left' rfl]

theorem isCmName_outName (name : Str) (h : isCssName name = true) (hl : name.length > 4) :
    isCmName (outName name) = true := by
  rw [outName_of_css name h hl]; exact (endsWith_iff _ _).2 ⟨_, rfl⟩

theorem css_short (name : Str) (h : isCssName name = true) (hl : ¬ name.length > 4) : name = ".css".toList := by
  obtain ⟨t, rfl⟩ := (isCssName_iff name).1 h
  have : t.length = 0 := by
    simp only [List.length_append] at hl
    have : ".css".toList.length = 4 := rfl
    omega
  have : t = [] := List.length_eq_zero_iff.1 this
  subst this; rfl

/-- an output is never picked up as an input: for `x.css` it ends in `_cm.css`, for the dot-file `.css` it is `.css_cm` -/
theorem outName_not_input (name : Str) (h : isCssName name = true) :
    (isCssName (outName name) && !isCmName (outName name)) = false := by
  by_cases hl : name.length > 4
  · rw [isCmName_outName name h hl]; simp
  · rw [css_short name h hl, outName_dotcss]; decide

theorem discovered_spec (names : List Str) (n : Str) :
    n ∈ discovered names ↔ n ∈ names ∧ isCssName n = true ∧ isCmName n = false := by
  simp [discovered]

theorem discovered_append (a b : List Str) : discovered (a ++ b) = discovered a ++ discovered b := by
  simp [discovered]

theorem discovered_idem (names : List Str) : discovered (discovered names) = discovered names := by
  simp [discovered]

/-- what a file contributes to the outputs of a run (`fileError`: to the reported names): a function of the file alone -/
def fileWrite (env : CliEnv) (cfg : Cfg) : Str × FileIn → Option (Str × List Node)
  | (name, .css nodes) =>
    match (processFile env cfg nodes {}).1 with
    | .written out => some (outName name, out)
    | .error => none
  | (_, .unreadable) => none

def fileError (env : CliEnv) (cfg : Cfg) : Str × FileIn → Option Str
  | (name, .css nodes) =>
    match (processFile env cfg nodes {}).1 with
    | .written _ => none
    | .error => some name
  | (name, .unreadable) => some name

/-- the file could be opened, decoded and parsed -/
def isReadable : Str × FileIn → Bool
  | (_, .css _) => true
  | (_, .unreadable) => false

def fileCount : Str × FileIn → Nat
  | (_, .css nodes) => countNodes nodes
  | (_, .unreadable) => 0

/-- the next file starts with a new `variables` and `rule_declarations_map`; the model's `statsOnly` under the loop's name -/
def resetSt (st : St) : St := { st with vars := [], rootDecls := [] }

theorem resetSt_eq_statsOnly (st : St) : resetSt st = statsOnly st := rfl

theorem runFiles_nil (env : CliEnv) (cfg : Cfg) (r : RunResult) : runFiles env cfg [] r = r := by
  simp only [runFiles]

theorem runFiles_unreadable (env : CliEnv) (cfg : Cfg) (name : Str) (rest : List (Str × FileIn)) (r : RunResult) :
    runFiles env cfg ((name, .unreadable) :: rest) r = runFiles env cfg rest { r with errors := r.errors ++ [name] } := by
  simp only [runFiles]

theorem runFiles_css (env : CliEnv) (cfg : Cfg) (name : Str) (nodes : List Node) (rest : List (Str × FileIn))
    (r : RunResult) :
    runFiles env cfg ((name, .css nodes) :: rest) r =
      match processFile env cfg nodes r.st with
      | (.written out, st') =>
        runFiles env cfg rest { r with writes := r.writes ++ [(outName name, out)], st := resetSt st' }
      | (.error, st') =>
        runFiles env cfg rest { r with errors := r.errors ++ [name], st := resetSt st' } := by
  cases hp : processFile env cfg nodes r.st with
  | mk o st' => cases o <;> simp only [runFiles, hp, resetSt]

/-- the counters and detail lists a file hands on to the next one -/
def fileNext (env : CliEnv) (cfg : Cfg) (st : St) : Str × FileIn → St
  | (_, .css nodes) => resetSt (processFile env cfg nodes st).2
  | (_, .unreadable) => st

/-- only the counters are threaded (`processFile_indep`) -/
theorem runFiles_cons (env : CliEnv) (cfg : Cfg) (f : Str × FileIn) (rest : List (Str × FileIn)) (r : RunResult) :
    runFiles env cfg (f :: rest) r = runFiles env cfg rest
      { writes := r.writes ++ (fileWrite env cfg f).toList, errors := r.errors ++ (fileError env cfg f).toList,
        st := fileNext env cfg r.st f } := by
  obtain ⟨name, fi⟩ := f
  cases fi with
  | unreadable => simp [runFiles, fileWrite, fileError, fileNext]
  | css nodes =>
    have hi := processFile_indep env cfg nodes r.st {}
    rw [runFiles_css]
    cases hp : processFile env cfg nodes r.st with
    | mk o st' =>
      rw [hp] at hi
      cases o <;> simp [fileWrite, fileError, fileNext, ← hi, hp]

theorem runFiles_eq (env : CliEnv) (cfg : Cfg) : (files : List (Str × FileIn)) → (r : RunResult) →
    runFiles env cfg files r =
      { writes := r.writes ++ files.filterMap (fileWrite env cfg), errors := r.errors ++ files.filterMap (fileError env cfg),
        st := files.foldl (fileNext env cfg) r.st }
  | [], r => by simp [runFiles_nil]
  | f :: rest, r => by
    rw [runFiles_cons, runFiles_eq env cfg rest, List.filterMap_cons, List.filterMap_cons, List.foldl_cons]
    cases fileWrite env cfg f <;> cases fileError env cfg f <;> simp

theorem fileNext_grew (env : CliEnv) (cfg : Cfg) (st : St) (f : Str × FileIn) :
    ∃ k, k ≤ fileCount f ∧ Grew k st (fileNext env cfg st f) ∧ (fileError env cfg f = none → k = fileCount f) := by
  obtain ⟨name, fi⟩ := f
  cases fi with
  | unreadable => exact ⟨0, Nat.le_refl _, Grew.refl st, fun _ => rfl⟩
  | css nodes =>
    have hs := processFile_spec env cfg nodes st
    have hi := processFile_indep env cfg nodes st {}
    simp only [fileNext, fileCount, fileError, ← hi]
    cases hp : processFile env cfg nodes st with
    | mk o st' =>
      rw [hp] at hs
      have e : SameCounts st' (resetSt st') := ⟨rfl, rfl, rfl, rfl, rfl⟩
      cases o with
      | written out => exact ⟨_, Nat.le_refl _, hs.2.congr (SameCounts.refl _) e, fun _ => rfl⟩
      | error =>
        obtain ⟨k, hk, hg⟩ := hs
        exact ⟨k, hk, hg.congr (SameCounts.refl _) e, fun h => nomatch h⟩

theorem runFiles_grew (env : CliEnv) (cfg : Cfg) : (files : List (Str × FileIn)) → (r : RunResult) →
    ∃ k, k ≤ (files.map fileCount).sum ∧ Grew k r.st (runFiles env cfg files r).st ∧
      ((files.filterMap (fileError env cfg) = []) → k = (files.map fileCount).sum)
  | [], r => ⟨0, Nat.le_refl _, by rw [runFiles_nil]; exact Grew.refl _, fun _ => rfl⟩
  | f :: rest, r => by
    rw [runFiles_cons]
    obtain ⟨k0, hk0, hg0, he0⟩ := fileNext_grew env cfg r.st f
    obtain ⟨k, hk, hg, he⟩ := runFiles_grew env cfg rest
      { writes := r.writes ++ (fileWrite env cfg f).toList, errors := r.errors ++ (fileError env cfg f).toList,
        st := fileNext env cfg r.st f }
    refine ⟨k0 + k, by simp only [List.map_cons, List.sum_cons]; omega, hg0.trans hg, ?_⟩
    intro h
    rw [List.filterMap_cons] at h
    cases hf : fileError env cfg f with
    | none => rw [hf] at h; simp only [List.map_cons, List.sum_cons, he0 hf, he h]
    | some x => rw [hf] at h; cases h

end Cm.Fs
