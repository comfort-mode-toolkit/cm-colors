import CmModel.Strategy
/-!
# The strategies and `check_and_fix_contrast`, by their ways out

One equation for the loop of modes 1 and 2, one case lemma for `_strategy_relaxed`, one rule for `check_and_fix_contrast`; the
properties about the strategies follow from these without unfolding the model again. No order or arithmetic law is used.
-/
namespace Cm
variable {α : Type} [Num α]

/-- one pass of modes 1 and 2: the multi-phase search with the per-step schedule -/
abbrev stepOf (O : Leaf α) (d : Descend α) (bg : RGB) (target minC : α) (c : RGB) : RGB :=
  genAccessible O d c bg target minC stepSchedule

/-- The loop has three ways out, not five: when the step returns its input (`next == current`,
    optimisation.py:366-372) that colour has just failed the test at the top of the iteration, so the
    test under it fails again and what is returned is the input with `False`. -/
theorem recursiveLoop_succ (O : Leaf α) (d : Descend α) (bg : RGB) (target minC : α) (n : Nat) (cur : RGB) :
    recursiveLoop O d bg target minC (n + 1) cur =
      if Num.ge (O.contrast cur bg) minC then (cur, true) else
      if Num.ge (O.contrast (stepOf O d bg target minC cur) bg) minC then (stepOf O d bg target minC cur, true) else
      if stepOf O d bg target minC cur = cur then (cur, false) else
      recursiveLoop O d bg target minC n (stepOf O d bg target minC cur) := by
  simp only [recursiveLoop, stepOf]
  generalize genAccessible O d cur bg target minC stepSchedule = next
  by_cases hc : Num.ge (O.contrast cur bg) minC = true
  · simp [hc]
  · by_cases hn : next = cur
    · subst hn; simp [hc]
    · simp [hc, hn]

theorem recursiveLoop_first_step (O : Leaf α) (d : Descend α) (bg : RGB) (target minC : α) (n : Nat) (cur : RGB)
    (hcur : Num.ge (O.contrast cur bg) minC = false)
    (hnext : Num.ge (O.contrast (stepOf O d bg target minC cur) bg) minC = true) :
    recursiveLoop O d bg target minC (n + 1) cur = (stepOf O d bg target minC cur, true) := by
  rw [recursiveLoop_succ, if_neg (by rw [hcur]; exact Bool.false_ne_true), if_pos hnext]

/-- for the flag alone the start need not fail: a start that passes is returned with `true` as well -/
theorem recursiveLoop_flag_of_first_step (O : Leaf α) (d : Descend α) (bg : RGB) (target minC : α) (n : Nat) (cur : RGB)
    (hnext : Num.ge (O.contrast (stepOf O d bg target minC cur) bg) minC = true) :
    (recursiveLoop O d bg target minC (n + 1) cur).2 = true := by
  rw [recursiveLoop_succ]
  by_cases hc : Num.ge (O.contrast cur bg) minC = true
  · rw [if_pos hc]
  · rw [if_neg hc, if_pos hnext]

/-- the two Python loops differ only in returning `cur` for `next` when `next = cur` -/
theorem optALoop_eq (O : Leaf α) (d : Descend α) (bg : RGB) (target minC : α) (n : Nat) (cur : RGB) :
    optALoop O d bg target minC n cur = recursiveLoop O d bg target minC n cur := by
  induction n generalizing cur with
  | zero => rfl
  | succ n ih =>
    simp only [recursiveLoop, optALoop, ih]
    generalize genAccessible O d cur bg target minC stepSchedule = next
    by_cases hn : next = cur
    · subst hn; cases Num.ge (O.contrast next bg) minC <;> rfl
    · simp [hn]

/-- The colour returned is reached from the start in at most `n` steps: any relation that holds of a colour and itself and is
    closed under putting one step in front holds of start and result (C02: contrast only grows; C04: a chain of bounded steps). -/
theorem recursiveLoop_path (O : Leaf α) (d : Descend α) (bg : RGB) (target minC : α)
    (R : Nat → RGB → RGB → Prop) (refl : ∀ n c, R n c c)
    (cons : ∀ n a c, R n (stepOf O d bg target minC a) c → R (n + 1) a c) (n : Nat) (cur : RGB) :
    R n cur (recursiveLoop O d bg target minC n cur).1 := by
  induction n generalizing cur with
  | zero => exact refl 0 cur
  | succ n ih =>
    rw [recursiveLoop_succ]
    split
    · exact refl _ cur
    · split
      · exact cons _ _ _ (refl n _)
      · split
        · exact refl _ cur
        · exact cons _ _ _ (ih _)

theorem strategyRelaxed_of_recursive (O : Leaf α) (d : Descend α) (t bg : RGB) (target minC : α)
    (h : (strategyRecursive O d t bg target minC).2 = true) :
    strategyRelaxed O d t bg target minC = strategyRecursive O d t bg target minC := by
  simp only [strategyRelaxed, h, if_true]
  exact Prod.ext rfl h.symm

/-- Every way out of `_strategy_relaxed`: it returns one of its three candidates — mode 1's result, option
    A's (15 iterations of the same loop), option B's (one search with the relaxed schedule) — flagged
    `true` only if that candidate passed; with no passing candidate it returns mode 1's result. -/
theorem strategyRelaxed_cases (O : Leaf α) (d : Descend α) (t bg : RGB) (target minC : α) :
    let r := strategyRecursive O d t bg target minC
    let a := recursiveLoop O d bg target minC 15 t
    let b := genAccessible O d t bg target minC relaxedSchedule
    let bOk := Num.ge (O.contrast b bg) minC
    (strategyRelaxed O d t bg target minC = r ∧ (r.2 = false → a.2 = false ∧ bOk = false)) ∨
    (strategyRelaxed O d t bg target minC = (a.1, true) ∧ a.2 = true) ∨
    (strategyRelaxed O d t bg target minC = (b, true) ∧ bOk = true) := by
  intro r a b bOk
  have e : strategyRelaxed O d t bg target minC =
      if r.2 then (r.1, true) else
      if a.2 && bOk then (if Num.le (O.deltaE t a.1) (O.deltaE t b) then (a.1, true) else (b, true))
      else if a.2 then (a.1, true) else if bOk then (b, true) else (r.1, false) := by
    simp only [a, ← optALoop_eq]; rfl
  rw [e]
  cases hr : r.2
  · cases ha : a.2
    · cases hb : bOk
      · exact Or.inl ⟨Prod.ext rfl hr.symm, fun _ => ⟨rfl, rfl⟩⟩
      · exact Or.inr (Or.inr ⟨rfl, rfl⟩)
    · cases hb : bOk
      · exact Or.inr (Or.inl ⟨rfl, rfl⟩)
      · cases Num.le (O.deltaE t a.1) (O.deltaE t b)
        · exact Or.inr (Or.inr ⟨rfl, rfl⟩)
        · exact Or.inr (Or.inl ⟨rfl, rfl⟩)
  · exact Or.inl ⟨Prod.ext rfl hr.symm, fun h => by cases h⟩

/-- `_strategy_relaxed` succeeds exactly when one of its three candidates passed -/
theorem strategyRelaxed_snd (O : Leaf α) (d : Descend α) (t bg : RGB) (target minC : α) :
    (strategyRelaxed O d t bg target minC).2 =
      ((strategyRecursive O d t bg target minC).2 || (recursiveLoop O d bg target minC 15 t).2 ||
        Num.ge (O.contrast (genAccessible O d t bg target minC relaxedSchedule) bg) minC) := by
  rcases strategyRelaxed_cases O d t bg target minC with ⟨h, h'⟩ | ⟨h, h'⟩ | ⟨h, h'⟩ <;> rw [h]
  · cases hr : (strategyRecursive O d t bg target minC).2
    · rw [(h' hr).1, (h' hr).2]; rfl
    · rfl
  · rw [h', Bool.or_true, Bool.true_or]
  · rw [h', Bool.or_true]

/-- the dispatch on `mode` (optimisation.py:564-576): 0 strict, 2 relaxed, anything else recursive; `checkAndFix_eq` is the bridge -/
def strategyOf (mode : Int) (O : Leaf α) (d : Descend α) (t bg : RGB) (target minC : α) : RGB × Bool :=
  if mode = 0 then strategyStrict O d t bg target minC
  else if mode = 2 then strategyRelaxed O d t bg target minC
  else strategyRecursive O d t bg target minC

/-- whatever `mode` is, the dispatch picks one of the three strategies (which one is forgotten) -/
theorem strategyOf_cases (mode : Int) :
    strategyOf (α := α) mode = strategyStrict ∨ strategyOf (α := α) mode = strategyRelaxed ∨
      strategyOf (α := α) mode = strategyRecursive := by
  unfold strategyOf
  split
  · exact Or.inl rfl
  · split
    · exact Or.inr (Or.inl rfl)
    · exact Or.inr (Or.inr rfl)

theorem strategyOf_zero (O : Leaf α) (d : Descend α) (t bg : RGB) (target minC : α) :
    strategyOf 0 O d t bg target minC = strategyStrict O d t bg target minC :=
  if_pos rfl

theorem strategyOf_one (O : Leaf α) (d : Descend α) (t bg : RGB) (target minC : α) :
    strategyOf 1 O d t bg target minC = strategyRecursive O d t bg target minC :=
  (if_neg (by decide)).trans (if_neg (by decide))

theorem strategyOf_two (O : Leaf α) (d : Descend α) (t bg : RGB) (target minC : α) :
    strategyOf 2 O d t bg target minC = strategyRelaxed O d t bg target minC :=
  (if_neg (by decide)).trans (if_pos rfl)

/-- `check_and_fix_contrast` is the shortcut for pairs that already pass, then the dispatch as the term `strategyOf` -/
theorem checkAndFix_eq (O : Leaf α) (d : Descend α) (t bg : RGB) (large : Bool) (mode : Int) (premium : Bool) :
    checkAndFix O d t bg large mode premium =
      if Num.ge (O.contrast t bg) (thresholds (α := α) large premium).1 then (t, true)
      else strategyOf mode O d t bg (thresholds (α := α) large premium).2 (thresholds (α := α) large premium).1 :=
  rfl

/-- A case principle for "every mode": what holds of the unchanged pair when it already passes, and of the result of each of
    the three strategies when it does not, holds of the result of `check_and_fix_contrast`. It forgets which mode picks which
    strategy. -/
theorem checkAndFix_rule (O : Leaf α) (d : Descend α) (t bg : RGB) (large : Bool) (mode : Int) (premium : Bool)
    (P : RGB × Bool → Prop)
    (h0 : Num.ge (O.contrast t bg) (thresholds (α := α) large premium).1 = true → P (t, true))
    (hS : Num.ge (O.contrast t bg) (thresholds (α := α) large premium).1 = false →
      ∀ S, S = strategyStrict ∨ S = strategyRelaxed ∨ S = strategyRecursive →
      P (S O d t bg (thresholds (α := α) large premium).2 (thresholds (α := α) large premium).1)) :
    P (checkAndFix O d t bg large mode premium) := by
  rw [checkAndFix_eq]
  by_cases hc : Num.ge (O.contrast t bg) (thresholds (α := α) large premium).1 = true
  · rw [if_pos hc]; exact h0 hc
  · rw [if_neg hc]; exact hS (Bool.eq_false_iff.2 hc) _ (strategyOf_cases mode)

end Cm
