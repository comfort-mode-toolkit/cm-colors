import CmModel.Strategy
import CmProofs.Order
/-! "Within tolerance" as the searches test it, and how a stage of one schedule entry that may `return` early is specified. -/
namespace Cm
variable {α : Type} [Num α]

/-- "no further than `thr`" in the form the lightness search tests it: `not (d > thr)` -/
def NotBeyond (d thr : α) : Prop := Num.gt d thr = false

theorem le_of_notBeyond [LawfulNumOrd α] {d thr : α} (h : NotBeyond d thr) : Num.le d thr = true := le_of_not_lt h

/-- what a search phase may record at tolerance `thr` -/
def InTol (O : Leaf α) (t : RGB) (thr : α) (c : RGB) : Prop :=
  O.validRgb c = true ∧ NotBeyond (O.deltaE t c) thr

theorem gradient_inTol [LawfulNumOrd α] (O : Leaf α) (d : Descend α) (t bg thr target r)
    (h : gradientDescent O d t bg thr target = some r) : InTol O t thr r := by
  simp only [gradientDescent] at h
  by_cases hv : O.validRgb (d t bg thr target) = true
  · rw [if_pos hv] at h
    by_cases hd : Num.le (O.deltaE t (d t bg thr target)) thr = true
    · rw [if_pos hd] at h; cases h; exact ⟨hv, not_lt_of_le hd⟩
    · rw [if_neg hd] at h; cases h
  · rw [if_neg hv] at h; cases h

/-- an early `return` is `Except.error`: `P` of a returned colour, `Q` of the state the stage goes on with -/
def StageSpec (P : RGB → Prop) (Q : GS α → Prop) (x : Except RGB (GS α)) : Prop :=
  (∀ r, x = .error r → P r) ∧ (∀ s, x = .ok s → Q s)

omit [Num α] in
theorem StageSpec.bind {P : RGB → Prop} {Q R : GS α → Prop} {x : Except RGB (GS α)}
    {f : GS α → Except RGB (GS α)}
    (hx : StageSpec P Q x) (hf : ∀ s, Q s → StageSpec P R (f s)) : StageSpec P R (x >>= f) := by
  cases x with
  | error r =>
    have : (Except.error r >>= f) = Except.error r := rfl
    rw [this]
    exact ⟨fun r' h => hx.1 r' h, fun s h => by cases h⟩
  | ok s =>
    have : (Except.ok s >>= f) = f s := rfl
    rw [this]
    exact hf s (hx.2 s rfl)

/-- the result is the input itself, or a valid colour within some entry of the schedule -/
def Within (O : Leaf α) (t : RGB) (sched : List α) (r : RGB) : Prop :=
  r = t ∨ ∃ thr ∈ sched, InTol O t thr r

/-- the conclusion is `CmProps.C04.Step O B t r`; at `B = 2.0`, `CmProps.C03.Close O t r` -/
theorem Within.bound [LawfulNumOrd α] {O : Leaf α} {t r : RGB} {W : List α} {B : α}
    (hW : ∀ x ∈ W, Num.le x B = true) (h : Within O t W r) :
    r = t ∨ (O.validRgb r = true ∧ Num.le (O.deltaE t r) B = true) :=
  h.imp_right fun ⟨thr, hm, hv, hd⟩ => ⟨hv, le_trans' (le_of_notBeyond hd) (hW thr hm)⟩

end Cm
