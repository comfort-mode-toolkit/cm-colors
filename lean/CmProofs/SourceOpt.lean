import CmModel.Strategy
import CmGen.Optimiser
open Cm
/-!
# The optimiser as translated from the source (`CmGen/Optimiser.lean`) equals the hand-written model

`CmGen/Optimiser.lean` is regenerated from `optimisation.py` on every run, statement by statement. Each generated loop body, applied
to the model's state as a tuple, is the model's step; the loops follow by induction. `gdOf O d` is the descent phase as the source
calls it, for an arbitrary `d`; `SourceDescent.lean` shows the source's own to be `gdOf O (descendImpl O)`.
-/
namespace Cm.SourceOpt
variable {α : Type} [Num α]
open CmGen.Opt

/-- the tuple the generated loop carries, for a model state -/
def bsTup (s : BS α) : α × α × Option RGB × α × α := (s.high, s.low, s.best, s.bestDE, s.bestC)

theorem bs_body (O : Leaf α) (t bg : RGB) (thr target c h : α) (up : Bool) (s : BS α) :
    binary_search_lightness__loop1 O t bg thr target c h up (bsTup s) =
      .next (bsTup (bsStep O t bg thr target c h up s)) := by
  unfold binary_search_lightness__loop1 bsStep bsTup
  simp only []
  generalize (s.low + s.high) / (2.0 : α) = m
  generalize O.ofOklch (m, c, h) = cd
  -- the body's own branching; once every test is decided both sides compute to the same tuple
  cases hv : O.validRgb cd
  · cases up <;> rfl
  · cases hd : Num.gt (O.deltaE t cd) thr
    · cases hk : Num.ge (O.contrast cd bg) target
      · cases hg : Num.gt (O.contrast cd bg) s.bestC <;> cases up <;> rfl
      · cases hc : (Num.lt s.bestC target || Num.lt (O.deltaE t cd) s.bestDE) <;> cases up <;> rfl
    · cases up <;> rfl

theorem bs_loop (O : Leaf α) (t bg : RGB) (thr target c h : α) (up : Bool) :
    ∀ (n : Nat) (s : BS α), loopN (binary_search_lightness__loop1 O t bg thr target c h up) n (bsTup s) =
      (.next (bsTup (bsLoop O t bg thr target c h up n s)) : Step _ (Option RGB))
  | 0, s => rfl
  | n + 1, s => by
    rw [loopN, bs_body, bsLoop]
    exact bs_loop O t bg thr target c h up n _

theorem source_binary_search (O : Leaf α) (t bg : RGB) (thr target : α) (large : Bool) :
    binary_search_lightness O t bg thr target large = binarySearch O t bg thr target := by
  unfold binary_search_lightness binarySearch
  rcases O.toOklch t with ⟨l, c, h⟩
  rcases O.toOklch bg with ⟨bl, x, y⟩
  -- the initial tuple is `bsTup (bsInit …)` and the direction test is `searchUp`, by unfolding
  exact congrArg (fun r : Step _ (Option RGB) => match r with | .ret r => r | .next s | .brk s => s.2.2.1)
    (bs_loop O t bg thr target c h (searchUp l bl) 20 (bsInit O l (searchUp l bl)))

/-- the descent phase as the source calls it -/
def gdOf (O : Leaf α) (d : Descend α) : RGB → RGB → α → α → Bool → Option RGB :=
  fun t bg thr target _ => gradientDescent O d t bg thr target

def gsTup (s : GS α) : α × Option RGB × α := (s.bestC, s.best, s.bestDE)

/-- an `Except` outcome of the model's step, as an outcome of the generated loop body -/
def toStep : Except RGB (GS α) → Step (α × Option RGB × α) RGB
  | .error r => .ret r
  | .ok s => .next (gsTup s)

/-- the block every path through the generated body ends in (written as it is generated: its `none` branch still names `best`) -/
theorem toStep_earlyTerm (minC thr last bestC bestDE : α) (best : Option RGB) :
    toStep (earlyTerm minC thr last { best := best, bestC := bestC, bestDE := bestDE }) =
      match best with
      | some b => if (Num.ge bestC minC && Num.le thr (2.5 : α) && Num.le last (5.0 : α)) then Step.ret b
          else Step.next (bestC, some b, bestDE)
      | none => Step.next (bestC, best, bestDE) := by
  unfold earlyTerm
  cases best with
  | none => rfl
  | some b => simp only []; split <;> rfl

theorem gen_body (O : Leaf α) (d : Descend α) (t bg : RGB) (large : Bool) (target minC : α) (seq : List α) (thr : α) (s : GS α) :
    generate_accessible_color__loop1 O (gdOf O d) t bg large target minC seq thr (gsTup s) =
      toStep (genStep O d t bg target minC (seq.getLastD (0.0 : α)) thr s) := by
  unfold genStep absorb
  simp only [bind, Except.bind, Bool.true_and, Bool.false_and, Bool.or_false]
  unfold generate_accessible_color__loop1 gsTup
  rw [source_binary_search, show gdOf O d t bg thr target large = gradientDescent O d t bg thr target from rfl]
  generalize binarySearch O t bg thr target = bs
  revert s
  -- The generated body repeats its second half after every way out of the first, so that half is walked once, where the first
  -- phase has no result, for every state (`second`); a first result that is not returned leaves a state from which the pass goes
  -- on as there. Each test is decided before anything is reduced: the body destructures a conditional tuple after each phase, and
  -- reducing that with the condition open copies it into every later test.
  refine (fun second => Option.rec second ?first bs) ?second
  case second =>  -- the goal with `bs := none`: `∀ s, body none (gsTup s) = toStep (second phase and early return from s)`
    rintro ⟨best, bestC, bestDE⟩
    rcases hg : gradientDescent O d t bg thr target with _ | g
    · simp only [toStep_earlyTerm]; rfl  -- the same block on both sides, through two matchers
    · cases h2 : Num.ge (O.contrast g bg) target with
      | true => simp only [h2, ↓reduceIte]; rfl  -- returned
      | false =>
        cases h3 : (Num.gt (O.contrast g bg) bestC || Num.eq (O.contrast g bg) bestC && Num.lt (O.deltaE t g) bestDE) with
        | true => simp only [h2, h3, toStep_earlyTerm, ↓reduceIte, Bool.false_eq_true]  -- recorded
        | false => simp only [h2, h3, toStep_earlyTerm, ↓reduceIte, Bool.false_eq_true]; rfl  -- not recorded
  case first second =>  -- the goal with `bs := some b`, given `second`
    rintro b ⟨best, bestC, bestDE⟩
    cases h1 : Num.ge (O.contrast b bg) target
    · cases hgt : Num.gt (O.contrast b bg) bestC <;> simp only [h1, hgt, ↓reduceIte, Bool.false_eq_true]
      · exact second ⟨best, bestC, bestDE⟩
      · exact second ⟨some b, O.contrast b bg, O.deltaE t b⟩
    · simp only [h1, ↓reduceIte]; rfl

/-- what `generate_accessible_color` does with the outcome of its loop (the `.brk` line is unreachable, the body never
    `break`s: the generated `match` merges `.next s | .brk s`) -/
def genFinish (t : RGB) : Step (α × Option RGB × α) RGB → RGB
  | .ret r => r
  | .next st => (match st.2.1 with | some b => b | none => t)
  | .brk st => (match st.2.1 with | some b => b | none => t)

theorem gen_loop (O : Leaf α) (d : Descend α) (t bg : RGB) (large : Bool) (target minC : α) (seq : List α) :
    ∀ (xs : List α) (s : GS α),
      genFinish t (loopL (generate_accessible_color__loop1 O (gdOf O d) t bg large target minC seq) xs (gsTup s)) =
      genLoop O d t bg target minC (seq.getLastD (0.0 : α)) xs s
  | [], s => by
    simp only [loopL, genLoop, gsTup, genFinish]
    cases s.best <;> rfl
  | x :: xs, s => by
    rw [loopL, gen_body, genLoop]
    cases h : genStep O d t bg target minC (seq.getLastD (0.0 : α)) x s with
    | error r => simp [toStep, genFinish]
    | ok s' => simpa [toStep] using gen_loop O d t bg large target minC seq xs s'

/-- `generate_accessible_color` with all optional arguments given -/
theorem source_generate_accessible_color (O : Leaf α) (d : Descend α) (t bg : RGB) (large : Bool) (target minC : α) (seq : List α) :
    generate_accessible_color O (gdOf O d) t bg large target minC seq = genAccessible O d t bg target minC seq := by
  unfold generate_accessible_color genAccessible
  simp only []
  split
  · rfl
  · have := gen_loop O d t bg large target minC seq seq { best := none, bestC := O.contrast t bg, bestDE := O.inf }
    simp only [gsTup] at this
    rw [← this]
    -- what the generated `match` does with the loop's outcome is `genFinish`
    rcases loopL (generate_accessible_color__loop1 O (gdOf O d) t bg large target minC seq) seq (O.contrast t bg, none, O.inf)
      with ⟨a, b, c⟩ | ⟨a, b, c⟩ | r
    · cases b <;> rfl
    · cases b <;> rfl
    · rfl

theorem source_strategy_strict (O : Leaf α) (d : Descend α) (t bg : RGB) (large : Bool) (target minC : α) :
    strategy_strict O (gdOf O d) t bg large target minC = strategyStrict O d t bg target minC := by
  unfold strategy_strict strategyStrict
  rw [source_generate_accessible_color]
  rfl

theorem rec_body (O : Leaf α) (d : Descend α) (bg : RGB) (large : Bool) (target minC : α) (cur : RGB) :
    strategy_recursive__loop1 O (gdOf O d) bg large target minC stepSchedule cur =
      (if Num.ge (O.contrast cur bg) minC then .ret (cur, true) else
       let next := genAccessible O d cur bg target minC stepSchedule
       if next = cur then (if Num.ge (O.contrast next bg) minC then .ret (next, true) else .ret (next, false))
       else if Num.ge (O.contrast next bg) minC then .ret (next, true) else .next next) := by
  unfold strategy_recursive__loop1
  simp only [source_generate_accessible_color]

theorem rec_loop (O : Leaf α) (d : Descend α) (bg : RGB) (large : Bool) (target minC : α) :
    ∀ (n : Nat) (cur : RGB),
      (match loopN (strategy_recursive__loop1 O (gdOf O d) bg large target minC stepSchedule) n cur with
       | .ret r => r
       | .next s => (s, false)
       | .brk s => (s, false)) = recursiveLoop O d bg target minC n cur
  | 0, cur => rfl
  | n + 1, cur => by
    rw [loopN, rec_body, recursiveLoop]
    cases Num.ge (O.contrast cur bg) minC
    · simp only [Bool.false_eq_true, if_false]
      generalize genAccessible O d cur bg target minC stepSchedule = next
      by_cases hn : next = cur
      · simp only [hn, if_true]; cases Num.ge (O.contrast cur bg) minC <;> rfl
      · simp only [hn, if_false]
        cases Num.ge (O.contrast next bg) minC
        · exact rec_loop O d bg large target minC n next
        · rfl
    · rfl

theorem source_strategy_recursive (O : Leaf α) (d : Descend α) (t bg : RGB) (large : Bool) (target minC : α) :
    strategy_recursive O (gdOf O d) t bg large target minC = strategyRecursive O d t bg target minC := by
  unfold strategy_recursive strategyRecursive
  rw [← rec_loop O d bg large target minC 10 t]
  simp only [stepSchedule]
  rcases loopN _ 10 t with a | a | r <;> rfl

theorem optA_body (O : Leaf α) (d : Descend α) (bg : RGB) (large : Bool) (target minC : α) (cur : RGB) :
    strategy_relaxed__loop1 O (gdOf O d) bg large target minC stepSchedule (false, cur) =
      (if Num.ge (O.contrast cur bg) minC then .brk (true, cur) else
       let next := genAccessible O d cur bg target minC stepSchedule
       if next = cur then .brk (Num.ge (O.contrast next bg) minC, cur)
       else if Num.ge (O.contrast next bg) minC then .brk (true, next) else .next (false, next)) := by
  unfold strategy_relaxed__loop1
  simp only [source_generate_accessible_color]
  grind

/-- option A's loop never `return`s: it stops by `break` or by running out, in a state that is the model's pair -/
theorem optA_loop (O : Leaf α) (d : Descend α) (bg : RGB) (large : Bool) (target minC : α) :
    ∀ (n : Nat) (cur : RGB), ∃ st,
      (loopN (strategy_relaxed__loop1 O (gdOf O d) bg large target minC stepSchedule) n (false, cur) = .next st ∨
       loopN (strategy_relaxed__loop1 O (gdOf O d) bg large target minC stepSchedule) n (false, cur) = .brk st) ∧
      (st.2, st.1) = optALoop O d bg target minC n cur
  | 0, cur => ⟨(false, cur), Or.inl rfl, rfl⟩
  | n + 1, cur => by
    rw [loopN, optA_body, optALoop]
    cases Num.ge (O.contrast cur bg) minC
    · simp only [Bool.false_eq_true, if_false]
      generalize genAccessible O d cur bg target minC stepSchedule = next
      by_cases hn : next = cur
      · simp only [hn, if_true]; exact ⟨_, Or.inr rfl, rfl⟩
      · simp only [hn, if_false]
        cases Num.ge (O.contrast next bg) minC
        · exact optA_loop O d bg large target minC n next
        · exact ⟨_, Or.inr rfl, rfl⟩
    · exact ⟨_, Or.inr rfl, rfl⟩

theorem source_strategy_relaxed (O : Leaf α) (d : Descend α) (t bg : RGB) (large : Bool) (target minC : α) :
    strategy_relaxed O (gdOf O d) t bg large target minC = strategyRelaxed O d t bg target minC := by
  unfold strategy_relaxed strategyRelaxed
  rw [source_strategy_recursive]
  rcases strategyRecursive O d t bg target minC with ⟨rr, rs⟩
  cases rs
  · obtain ⟨⟨a, b⟩, hL, h⟩ := optA_loop O d bg large target minC 15 t
    simp only [← h, source_generate_accessible_color]
    simp only [stepSchedule] at hL
    rcases hL with hL | hL <;> simp only [hL] <;> rfl
  · rfl

/-- `check_and_fix_contrast` from the point where both colours are parsed is the model's `checkAndFix` -/
theorem source_check_and_fix (O : Leaf α) (d : Descend α) (t bg : RGB) (large : Bool) (mode : Int) (premium : Bool) :
    check_and_fix_contrast_core O (gdOf O d) t bg large mode premium = checkAndFix O d t bg large mode premium := by
  unfold check_and_fix_contrast_core checkAndFix
  simp only [source_strategy_strict, source_strategy_relaxed, source_strategy_recursive]
  -- the table, entry by entry; then the shortcut and the dispatch on `mode` are the same tests on both sides
  cases large <;> cases premium <;> simp only [thresholds, Bool.false_eq_true, if_false, if_true]
  all_goals
    split
    · rfl
    · split
      · rfl
      · split <;> rfl

end Cm.SourceOpt
