import CmProofs.RealNum
import CmProofs.Rgb
import Mathlib.Tactic.LinearCombination
/-!
# Hue angle, CIEDE2000 and OKLCH at the real carrier

Every sub-term of CIEDE2000 in Mathlib's vocabulary, tied to the model by `deltaE2000Lab_real`; what swapping the two
colours does to each, its sign or range, and the quadratic form under the final root.
-/
namespace Cm
open Real

theorem clamp_range {α : Type*} [LinearOrder α] {lo hi : α} (h : lo ≤ hi) (x : α) :
    lo ≤ max lo (min hi x) ∧ max lo (min hi x) ≤ hi := ⟨le_max_left _ _, max_le h (min_le_left _ _)⟩

theorem quant8_range {α : Type} [NumT α] (x : α) : 0 ≤ quant8 x ∧ quant8 x ≤ 255 :=
  clamp_range (by decide) _

/-- every channel `oklchToRgb` returns is a `quant8 _` (of the transfer function of a clamped linear-light value), for
any carrier -/
theorem oklchToRgb_quant8 {α : Type} [NumT α] (t : Triple α) :
    ∃ x y z : α, oklchToRgb t = (quant8 x, quant8 y, quant8 z) := by
  obtain ⟨L, C, H⟩ := t
  exact ⟨_, _, _, rfl⟩

/-- `hueAngle` at ℝ -/
noncomputable def hueR (a b : ℝ) : ℝ :=
  if a = 0 ∧ b = 0 then 0
  else if Complex.arg ⟨a, b⟩ * 180 / π < 0 then Complex.arg ⟨a, b⟩ * 180 / π + 360
  else Complex.arg ⟨a, b⟩ * 180 / π

theorem hueAngle_real (a b : ℝ) : @hueAngle ℝ realNum a b = hueR a b := by
  unfold hueAngle hueR
  simp only [Bool.and_eq_true, real_eq, real_lt, real_sci, real_add, real_mul, real_div, real_pi,
    real_atan2]
  norm_num only

theorem argDeg_range (z : ℂ) : -180 < z.arg * 180 / π ∧ z.arg * 180 / π ≤ 180 := by
  have hpi := Real.pi_pos
  rw [lt_div_iff₀ hpi, div_le_iff₀ hpi]
  exact ⟨by linear_combination 180 * Complex.neg_pi_lt_arg z,
    by linear_combination 180 * Complex.arg_le_pi z⟩

theorem wrap_range {d : ℝ} (hd : -180 < d ∧ d ≤ 180) :
    0 ≤ (if d < 0 then d + 360 else d) ∧ (if d < 0 then d + 360 else d) < 360 := by
  split_ifs with h
  · constructor <;> linarith
  · exact ⟨not_lt.1 h, by linarith⟩

theorem wrap_inj {d e : ℝ} (hd : -180 < d ∧ d ≤ 180) (he : -180 < e ∧ e ≤ 180)
    (h : (if d < 0 then d + 360 else d) = if e < 0 then e + 360 else e) : d = e := by
  split_ifs at h <;> linarith

theorem hueR_range (a b : ℝ) : 0 ≤ hueR a b ∧ hueR a b < 360 := by
  unfold hueR
  by_cases h0 : a = 0 ∧ b = 0
  · rw [if_pos h0]; norm_num
  · rw [if_neg h0]; exact wrap_range (argDeg_range ⟨a, b⟩)

/-! Names: a final `R` marks a definition over `ℝ` (`hueR`, `radR`, `dhpR`, `hmR`: the model's functions at `realNum`;
`GR` … `RTR`: `let`-bound sub-terms of `deltaE2000Lab`), a final `P` a term of the pair `p q`, with its CIE symbol in
the docstring (`LmP` is the unprimed `L̄`, `Gpq` is `G`). -/

noncomputable def radR (x : ℝ) : ℝ := x * (π / 180)

theorem radians_real (x : ℝ) : @radians ℝ realNum x = radR x := by
  unfold radians radR
  simp only [real_sci, real_mul, real_div, real_pi]
  norm_num only

/-- `dhPrime` at ℝ -/
noncomputable def dhpR (C1 C2 h1 h2 : ℝ) : ℝ :=
  if C1 = 0 ∨ C2 = 0 then 0
  else if |h2 - h1| ≤ 180 then h2 - h1
  else if 180 < h2 - h1 then h2 - h1 - 360
  else h2 - h1 + 360

theorem dhPrime_real (C1 C2 h1 h2 : ℝ) : @dhPrime ℝ realNum C1 C2 h1 h2 = dhpR C1 C2 h1 h2 := by
  unfold dhPrime dhpR
  simp only [Bool.or_eq_true, real_eq, real_le, real_gt, real_sci, real_abs, real_sub, real_add]
  norm_num only

/-- `hMeanPrime` at ℝ -/
noncomputable def hmR (C1 C2 h1 h2 : ℝ) : ℝ :=
  if C1 = 0 ∨ C2 = 0 then h1 + h2
  else if |h1 - h2| ≤ 180 then (h1 + h2) / 2
  else if 180 < |h1 - h2| ∧ h1 + h2 < 360 then (h1 + h2 + 360) / 2
  else (h1 + h2 - 360) / 2

theorem hMeanPrime_real (C1 C2 h1 h2 : ℝ) : @hMeanPrime ℝ realNum C1 C2 h1 h2 = hmR C1 C2 h1 h2 := by
  unfold hMeanPrime hmR
  simp only [Bool.or_eq_true, Bool.and_eq_true, real_eq, real_le, real_gt, real_lt, real_sci,
    real_abs, real_sub, real_add, real_div]
  norm_num only

theorem lt_neg_of_not_abs_le {d c : ℝ} (h : ¬ |d| ≤ c) (h' : ¬ c < d) : d < -c :=
  (lt_abs.1 (not_le.1 h)).elim (fun h => absurd h h') lt_neg.1

theorem dhpR_anti (C1 C2 h1 h2 : ℝ) : dhpR C2 C1 h2 h1 = -dhpR C1 C2 h1 h2 := by
  unfold dhpR
  simp only [abs_sub_comm h1 h2, or_comm (a := C2 = 0)]
  by_cases hC : C1 = 0 ∨ C2 = 0
  · simp only [if_pos hC, neg_zero]
  · simp only [if_neg hC]
    by_cases hle : |h2 - h1| ≤ 180
    · simp only [if_pos hle]; ring
    · simp only [if_neg hle]
      by_cases hgt : 180 < h2 - h1
      · rw [if_pos hgt, if_neg (by linarith)]; ring
      · rw [if_neg hgt, if_pos (by linarith [lt_neg_of_not_abs_le hle hgt])]; ring

theorem hmR_symm (C1 C2 h1 h2 : ℝ) : hmR C2 C1 h2 h1 = hmR C1 C2 h1 h2 := by
  unfold hmR
  simp only [abs_sub_comm h2 h1, or_comm (a := C2 = 0), add_comm h2 h1]

/-- the fraction under the root of `G` and of `R_C`. The symbols of the next eight: `GR` is `G(C̄)`, `TR` is `T`,
`dThetaR` is `Δθ`, `RCR` is `R_C`, `SLR`, `SCR`, `SHR` are `S_L`, `S_C`, `S_H`, `RTR` is `R_T` -/
noncomputable def ratio7 (C : ℝ) : ℝ := C ^ 7 / (C ^ 7 + 25 ^ 7)
noncomputable def GR (Cm : ℝ) : ℝ := 0.5 * (1 - √(ratio7 Cm))
noncomputable def TR (Hm : ℝ) : ℝ :=
  1 - 0.17 * cos (radR (Hm - 30)) + 0.24 * cos (radR (2 * Hm))
    + 0.32 * cos (radR (3 * Hm + 6)) - 0.20 * cos (radR (4 * Hm - 63))
noncomputable def dThetaR (Hm : ℝ) : ℝ := 30 * exp (-(((Hm - 275) / 25) ^ 2))
noncomputable def RCR (Cmp : ℝ) : ℝ := 2 * √(ratio7 Cmp)
noncomputable def SLR (Lm : ℝ) : ℝ := 1 + 0.015 * (Lm - 50) ^ 2 / √(20 + (Lm - 50) ^ 2)
noncomputable def SCR (Cmp : ℝ) : ℝ := 1 + 0.045 * Cmp
noncomputable def SHR (Cmp Hm : ℝ) : ℝ := 1 + 0.015 * Cmp * TR Hm
noncomputable def RTR (Cmp Hm : ℝ) : ℝ := -(sin (radR (2 * dThetaR Hm))) * RCR Cmp

abbrev Lab := ℝ × ℝ × ℝ

noncomputable def chroma (a b : ℝ) : ℝ := √(a * a + b * b)
/-- `G` -/
noncomputable def Gpq (p q : Lab) : ℝ := GR ((chroma p.2.1 p.2.2 + chroma q.2.1 q.2.2) / 2)
/-- `a'` -/
noncomputable def aP (g : ℝ) (p : Lab) : ℝ := p.2.1 * (1 + g)
/-- `C'` -/
noncomputable def CP (g : ℝ) (p : Lab) : ℝ := √(aP g p * aP g p + p.2.2 * p.2.2)
/-- `h'` -/
noncomputable def hP (g : ℝ) (p : Lab) : ℝ := hueR (aP g p) p.2.2
/-- `C̄'` -/
noncomputable def CmP (p q : Lab) : ℝ := (CP (Gpq p q) p + CP (Gpq p q) q) / 2
/-- `Δh'` -/
noncomputable def dhP (p q : Lab) : ℝ :=
  dhpR (CP (Gpq p q) p) (CP (Gpq p q) q) (hP (Gpq p q) p) (hP (Gpq p q) q)
/-- `H̄'` -/
noncomputable def HmP (p q : Lab) : ℝ :=
  hmR (CP (Gpq p q) p) (CP (Gpq p q) q) (hP (Gpq p q) p) (hP (Gpq p q) q)
/-- `ΔL'` -/
noncomputable def dLP (p q : Lab) : ℝ := q.1 - p.1
/-- `L̄` -/
noncomputable def LmP (p q : Lab) : ℝ := (p.1 + q.1) / 2
/-- `ΔC'` -/
noncomputable def dCP (p q : Lab) : ℝ := CP (Gpq p q) q - CP (Gpq p q) p
/-- `ΔH'` -/
noncomputable def dHP (p q : Lab) : ℝ :=
  2 * √(CP (Gpq p q) p * CP (Gpq p q) q) * sin (radR (dhP p q / 2))

/-- only the chroma and hue terms `y`, `z` are coupled -/
noncomputable def coreForm (x y z r : ℝ) : ℝ := x ^ 2 + y ^ 2 + z ^ 2 + r * y * z

/-- the expression under the final square root of CIEDE2000 -/
noncomputable def radicand (p q : Lab) : ℝ :=
  coreForm (dLP p q / SLR (LmP p q)) (dCP p q / SCR (CmP p q)) (dHP p q / SHR (CmP p q) (HmP p q))
    (RTR (CmP p q) (HmP p q))

/-- the model writes the source's integer constants as float literals, and `pow(25, 7)` folded; the sub-terms
above write them as numerals -/
theorem float_literals : (1.0 : ℝ) = 1 ∧ (2.0 : ℝ) = 2 ∧ (3.0 : ℝ) = 3 ∧ (4.0 : ℝ) = 4 ∧
    (6.0 : ℝ) = 6 ∧ (20.0 : ℝ) = 20 ∧ (25.0 : ℝ) = 25 ∧ (30.0 : ℝ) = 30 ∧ (50.0 : ℝ) = 50 ∧
    (63.0 : ℝ) = 63 ∧ (275.0 : ℝ) = 275 ∧ (6103515625.0 : ℝ) = 25 ^ 7 := by norm_num

/-- the tie between the model and the named sub-terms -/
theorem deltaE2000Lab_real (p q : Lab) : @deltaE2000Lab ℝ realNum p q = √(radicand p q) := by
  obtain ⟨L1, a1, b1⟩ := p
  obtain ⟨L2, a2, b2⟩ := q
  unfold deltaE2000Lab
  -- the literals are rewritten by `float_literals`, not by `norm_num`, which is slow on a term this size
  simp only [real_sq, real_pow7, radians_real, dhPrime_real, hMeanPrime_real, hueAngle_real,
    real_sci, real_add, real_sub, real_mul, real_div, real_neg, real_sqrt, real_sin, real_cos,
    real_exp, float_literals, one_mul]
  simp only [radicand, coreForm, dLP, dCP, dHP, dhP, HmP, CmP, LmP, hP, CP, aP, Gpq, chroma, GR, RCR,
    RTR, SLR, SCR, SHR, TR, dThetaR, ratio7]

theorem Gpq_comm (p q : Lab) : Gpq q p = Gpq p q := by
  unfold Gpq; rw [add_comm]

theorem CmP_comm (p q : Lab) : CmP q p = CmP p q := by
  unfold CmP; rw [Gpq_comm, add_comm]

theorem LmP_comm (p q : Lab) : LmP q p = LmP p q := by
  unfold LmP; rw [add_comm]

theorem dLP_anti (p q : Lab) : dLP q p = -dLP p q := by
  unfold dLP; ring

theorem dCP_anti (p q : Lab) : dCP q p = -dCP p q := by
  unfold dCP; rw [Gpq_comm]; ring

theorem dhP_anti (p q : Lab) : dhP q p = -dhP p q := by
  unfold dhP; rw [Gpq_comm, dhpR_anti]

theorem HmP_comm (p q : Lab) : HmP q p = HmP p q := by
  unfold HmP; rw [Gpq_comm, hmR_symm]

theorem dHP_anti (p q : Lab) : dHP q p = -dHP p q := by
  unfold dHP radR
  rw [dhP_anti, Gpq_comm, mul_comm (CP (Gpq p q) q), neg_div, neg_mul, sin_neg]
  ring

theorem coreForm_neg (x y z r : ℝ) : coreForm (-x) (-y) (-z) r = coreForm x y z r := by
  unfold coreForm; ring

theorem radicand_comm (p q : Lab) : radicand q p = radicand p q := by
  unfold radicand
  rw [dLP_anti, dCP_anti, dHP_anti, LmP_comm, CmP_comm, HmP_comm, neg_div, neg_div, neg_div,
    coreForm_neg]

theorem chroma_nonneg (a b : ℝ) : 0 ≤ chroma a b := Real.sqrt_nonneg _
theorem CP_nonneg (g : ℝ) (p : Lab) : 0 ≤ CP g p := Real.sqrt_nonneg _
theorem CmP_nonneg (p q : Lab) : 0 ≤ CmP p q :=
  div_nonneg (add_nonneg (CP_nonneg _ p) (CP_nonneg _ q)) zero_le_two

theorem chromaMean_nonneg (p q : Lab) : 0 ≤ (chroma p.2.1 p.2.2 + chroma q.2.1 q.2.2) / 2 :=
  div_nonneg (add_nonneg (chroma_nonneg _ _) (chroma_nonneg _ _)) zero_le_two

theorem chroma_eq_zero {a b : ℝ} : chroma a b = 0 ↔ a = 0 ∧ b = 0 := by
  rw [chroma, Real.sqrt_eq_zero (add_nonneg (mul_self_nonneg a) (mul_self_nonneg b)),
    add_eq_zero_iff_of_nonneg (mul_self_nonneg a) (mul_self_nonneg b), mul_self_eq_zero, mul_self_eq_zero]

theorem pow7_add_pos {C : ℝ} (hC : 0 ≤ C) : 0 < C ^ 7 + 25 ^ 7 :=
  add_pos_of_nonneg_of_pos (pow_nonneg hC 7) (by norm_num)

theorem ratio7_nonneg {C : ℝ} (hC : 0 ≤ C) : 0 ≤ ratio7 C :=
  div_nonneg (pow_nonneg hC 7) (pow7_add_pos hC).le

theorem ratio7_lt_one {C : ℝ} (hC : 0 ≤ C) : ratio7 C < 1 := by
  unfold ratio7
  rw [div_lt_one (pow7_add_pos hC)]
  exact lt_add_of_pos_right _ (by norm_num)

theorem RCR_nonneg (C : ℝ) : 0 ≤ RCR C := mul_nonneg zero_le_two (Real.sqrt_nonneg _)

theorem sqrt_ratio7_lt_one {C : ℝ} (hC : 0 ≤ C) : √(ratio7 C) < 1 := by
  rw [Real.sqrt_lt' one_pos, one_pow]; exact ratio7_lt_one hC

theorem RCR_lt_two {C : ℝ} (hC : 0 ≤ C) : RCR C < 2 := by
  unfold RCR
  have := sqrt_ratio7_lt_one hC
  linarith

theorem abs_RTR_lt_two {C : ℝ} (hC : 0 ≤ C) (Hm : ℝ) : |RTR C Hm| < 2 := by
  unfold RTR
  rw [abs_mul, abs_neg, abs_of_nonneg (RCR_nonneg C)]
  calc |sin (radR (2 * dThetaR Hm))| * RCR C ≤ 1 * RCR C :=
        mul_le_mul_of_nonneg_right (Real.abs_sin_le_one _) (RCR_nonneg C)
    _ = RCR C := one_mul _
    _ < 2 := RCR_lt_two hC

theorem GR_range {C : ℝ} (hC : 0 ≤ C) : 0 < GR C ∧ GR C ≤ 0.5 := by
  unfold GR
  exact ⟨mul_pos (by norm_num) (sub_pos.2 (sqrt_ratio7_lt_one hC)),
    by linear_combination 0.5 * Real.sqrt_nonneg (ratio7 C)⟩

/-- `T` stays within `0.17 + 0.24 + 0.32 + 0.20 = 0.93` of `1` -/
theorem TR_range (Hm : ℝ) : 0.07 ≤ TR Hm ∧ TR Hm ≤ 1.93 := by
  unfold TR
  constructor
  · linear_combination 0.17 * cos_le_one (radR (Hm - 30)) + 0.24 * neg_one_le_cos (radR (2 * Hm))
      + 0.32 * neg_one_le_cos (radR (3 * Hm + 6)) + 0.20 * cos_le_one (radR (4 * Hm - 63))
  · linear_combination 0.17 * neg_one_le_cos (radR (Hm - 30)) + 0.24 * cos_le_one (radR (2 * Hm))
      + 0.32 * cos_le_one (radR (3 * Hm + 6)) + 0.20 * neg_one_le_cos (radR (4 * Hm - 63))

theorem SLR_ge_one (Lm : ℝ) : 1 ≤ SLR Lm := le_add_of_nonneg_right (by positivity)

theorem SCR_ge_one {C : ℝ} (hC : 0 ≤ C) : 1 ≤ SCR C :=
  le_add_of_nonneg_right (mul_nonneg (by norm_num) hC)

theorem SHR_ge_one {C : ℝ} (hC : 0 ≤ C) (Hm : ℝ) : 1 ≤ SHR C Hm :=
  le_add_of_nonneg_right
    (mul_nonneg (mul_nonneg (by norm_num) hC) (le_trans (by norm_num) (TR_range Hm).1))

/-- completing the square: behind both "the radicand is non-negative" and "it vanishes only at the origin" -/
theorem quad_identity (x y r : ℝ) :
    4 * (x ^ 2 + y ^ 2 + r * x * y) = (2 * x + r * y) ^ 2 + (4 - r ^ 2) * y ^ 2 := by ring

theorem quad_nonneg (x y r : ℝ) (hr : |r| ≤ 2) : 0 ≤ x ^ 2 + y ^ 2 + r * x * y := by
  have h4 : 0 ≤ 4 - r ^ 2 := by
    have := sq_le_sq' (abs_le.1 hr).1 (abs_le.1 hr).2; linarith
  have := quad_identity x y r
  have := sq_nonneg (2 * x + r * y)
  have := mul_nonneg h4 (sq_nonneg y)
  linarith

theorem coreForm_eq (x y z r : ℝ) : coreForm x y z r = x ^ 2 + (y ^ 2 + z ^ 2 + r * y * z) := by
  unfold coreForm; ring

theorem coreForm_nonneg (x y z r : ℝ) (hr : |r| ≤ 2) : 0 ≤ coreForm x y z r := by
  rw [coreForm_eq]; exact add_nonneg (sq_nonneg x) (quad_nonneg y z r hr)

theorem dhpR_self (C h : ℝ) : dhpR C C h h = 0 := self_eq_neg.1 (dhpR_anti C C h h)

theorem radicand_self (p : Lab) : radicand p p = 0 := by
  unfold radicand coreForm dLP dCP dHP dhP radR
  rw [dhpR_self]
  simp

theorem rgbToOklch_real (c : RGB) : @rgbToOklch ℝ realNum c =
    let o := @rgbToOklab ℝ realNum c
    (max 0 (min 1 o.1), chroma o.2.1 o.2.2,
      if chroma o.2.1 o.2.2 < 1e-10 then 0 else hueR o.2.1 o.2.2) := by
  unfold rgbToOklch chroma
  simp only [real_pmax, real_pmin, real_lt, real_sqrt, real_add, real_mul, real_sci, hueAngle_real]
  norm_num only

theorem validOklch_real (L C H : ℝ) :
    @validOklch ℝ realNum (L, C, H) = true ↔ ((0 ≤ L ∧ L ≤ 1) ∧ 0 ≤ C) ∧ 0 ≤ H ∧ H ≤ 360 := by
  unfold validOklch
  simp only [Bool.and_eq_true, real_le, real_sci, Bool.not_eq_true', real_lt_false]
  norm_num only

theorem linearToSrgb_real (c : ℝ) : @linearToSrgb ℝ realNum c =
    if c ≤ 0.0031308 then 12.92 * c else 1.055 * c ^ ((1.0 : ℝ) / 2.4) - 0.055 := by
  unfold linearToSrgb
  simp only [real_le, real_mul, real_sub, real_div, real_rpow, real_sci]

theorem quant8_real_chan (n : ℤ) : @quant8 ℝ realNum ((n : ℝ) / 255) = max 0 (min 255 n) := by
  unfold quant8
  rw [real_mul, real_sci, show (255.0 : ℝ) = 255 by norm_num, div_mul_cancel₀ _ (by norm_num),
    real_roundHE_int]

end Cm
