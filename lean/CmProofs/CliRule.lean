import CmModel.Cli
/-!
# One rule of the CSS rewriter (`Cm.Cli.processRule`)

The definitions down to `tunedStep` are the `let`-bound pieces of `processRule`, named so that lemmas can be stated about them;
`processRule_eq_verdict` is `processRule` written with them. Then: declaration lists up to declaration values (what `setDeclValue`
keeps, where `lastDecl` finds its declaration); the shared `:root` / `html` blocks (looking one up after an update, and the order
`RootsLe` processing keeps between them); what one rule does to the state: the counters and detail lists (`Grew`), the blocks,
the shape of its list; and that it reads only the table and the blocks (`StRel`, `processRule_rel`).
-/
namespace Cm.Cli

/-- `rule_declarations.get(id(node))`, with its key -/
def sharedOf (top : Option Nat) (st : St) : Option (Nat × List Item) :=
  match top with
  | some i => (getRoot st i).map fun its => (i, its)
  | none => none

/-- `declarations`: the pre-parsed list if the rule has one, else its own -/
def seenItems (top : Option Nat) (items0 : List Item) (st : St) : List Item :=
  match sharedOf top st with | some (_, its) => its | none => items0

/-- `raw_bg_color` -/
def bgRawOf (env : CliEnv) (cfg : Cfg) (items : List Item) : Str :=
  match lastDecl items "background-color".toList with
  | some (_, bd) => strip env bd.value
  | none => cfg.defaultBg

/-- `text_color_str` -/
def textOf (env : CliEnv) (st : St) (cd : Decl) : Str := resolveOr env st.vars (strip env cd.value)
/-- `bg_color_str` -/
def bgOf (env : CliEnv) (cfg : Cfg) (st : St) (items : List Item) : Str := resolveOr env st.vars (bgRawOf env cfg items)
/-- what `ColorPair` and `make_readable` say about the resolved pair -/
def evalOf (env : CliEnv) (cfg : Cfg) (st : St) (items : List Item) (cd : Decl) : PairResult :=
  cfg.pairEval (textOf env st cd) (bgOf env cfg st items)

/-- `var_match and var_match.group(1) in variables`; `none` = the declaration itself is rewritten -/
def viaVarOf (env : CliEnv) (st : St) (rawText : Str) : Option (Str × VarDef) :=
  if containsVar rawText then
    match searchVarSimple env rawText with
    | some name => (lookupVar st.vars name).map fun d => (name, d)
    | none => none
  else none

def failSt (st : St) (f : Failed) : St :=
  { st with failed := st.failed + 1, failedDetails := f :: st.failedDetails }
def accSt (st : St) : St := { st with accessible := st.accessible + 1 }
def tuneSt (st : St) (f : Fixed) : St :=
  { st with tuned := st.tuned + 1, fixedDetails := f :: st.fixedDetails }
/-- the `fixed_details` entry -/
def fixedOf (env : CliEnv) (cfg : Cfg) (st : St) (sel : Str) (items : List Item) (cd : Decl) : Fixed :=
  { selector := sel, bg := bgOf env cfg st items, originalText := textOf env st cd,
    tunedText := (evalOf env cfg st items cd).tuned,
    originalLevel := (evalOf env cfg st items cd).origLevel, newLevel := (evalOf env cfg st items cd).newLevel }
/-- `update_decl_value(var_def["decl"], v)` in the shared block, then `var_def["value"] = v` in the table -/
def rewriteVar (st1 : St) (name : Str) (d : VarDef) (v : Str) : St :=
  let st2 := match getRoot st1 d.rule with
    | some its => setRoot st1 d.rule (setDeclValue its d.item v)
    | none => st1
  { st2 with vars := st2.vars.map fun kv => if kv.1 = name then (name, { kv.2 with value := v }) else kv }
/-- `st` only decides whether there is a shared block; `st1` (`st` with the counters moved) is written to -/
def shareBack (top : Option Nat) (st st1 : St) (items' : List Item) : St :=
  match sharedOf top st with | some (i, _) => setRoot st1 i items' | none => st1
/-- `declarations` is the shared list object: re-read after `rewriteVar` -/
def itemsAfterVar (top : Option Nat) (items : List Item) (st3 : St) : List Item :=
  match top with
  | some i => (getRoot st3 i).getD items
  | none => items

/-- the `if is_accessible:` branch; `.error` = re-serialising the rewritten list raised -/
def tunedStep (env : CliEnv) (cfg : Cfg) (top : Option Nat) (sel : Str) (items0 : List Item) (st : St)
    (ci : Nat) (cd : Decl) : Except St (List Item × St) :=
  let items := seenItems top items0 st
  let v := (evalOf env cfg st items cd).tuned
  let st1 := tuneSt st (fixedOf env cfg st sel items cd)
  match viaVarOf env st (strip env cd.value) with
  | some (name, d) => .ok (itemsAfterVar top items (rewriteVar st1 name d v), rewriteVar st1 name d v)
  | none =>
    if !itemsSerialisable (setDeclValue items ci v) then .error st1
    else .ok (setDeclValue items ci v, shareBack top st st1 (setDeclValue items ci v))

/-- the tests on `pairEval`'s answer in program order: the `except`, `not pair.is_valid`, `contrast >= target_ratio`, `is_accessible` -/
inductive Verdict where
  | accessible | failed (invalid : Bool) | tuned
  deriving DecidableEq, Repr

def verdict (r : PairResult) : Verdict :=
  if r.raised then .failed false else if !r.valid then .failed true else if r.meets then .accessible
  else if !r.ok then .failed false else .tuned

theorem processRule_eq_verdict (env : CliEnv) (cfg : Cfg) (top : Option Nat) (sel : Str) (items0 : List Item) (st : St) :
    processRule env cfg top sel items0 st =
      match lastDecl (seenItems top items0 st) "color".toList with
      | none => .ok (seenItems top items0 st, st)
      | some (ci, cd) =>
        match verdict (evalOf env cfg st (seenItems top items0 st) cd) with
        | .accessible => .ok (seenItems top items0 st, accSt st)
        | .failed inv => .ok (seenItems top items0 st, failSt st
            { selector := sel, text := textOf env st cd, bg := bgOf env cfg st (seenItems top items0 st), invalid := inv })
        | .tuned => tunedStep env cfg top sel items0 st ci cd := by
  -- `items` is `seenItems`, `r` is `evalOf`, the last branch is `tunedStep`: all by unfolding
  unfold processRule
  extract_lets shared items rawBg bg
  rw [show seenItems top items0 st = items from rfl]
  cases lastDecl items "color".toList with
  | none => rfl
  | some p =>
    obtain ⟨ci, cd⟩ := p
    dsimp -zeta only   -- the `let`s stay, for `extract_lets`
    extract_lets rawText text r
    rw [show evalOf env cfg st items cd = r from rfl, verdict]
    -- both sides test the same four flags in the same order
    cases r.raised <;> cases r.valid <;> cases r.meets <;> cases r.ok <;> rfl

/-- two states that differ at most in the counters and detail lists -/
def StRel (s t : St) : Prop := s.vars = t.vars ∧ s.rootDecls = t.rootDecls

theorem StRel.refl (s : St) : StRel s s := ⟨rfl, rfl⟩
theorem StRel.symm {s t : St} (h : StRel s t) : StRel t s := ⟨h.1.symm, h.2.symm⟩
theorem StRel.trans {s t u : St} (h : StRel s t) (h' : StRel t u) : StRel s u := ⟨h.1.trans h'.1, h.2.trans h'.2⟩

theorem stRel_failSt (st : St) (f : Failed) : StRel st (failSt st f) := ⟨rfl, rfl⟩
theorem stRel_accSt (st : St) : StRel st (accSt st) := ⟨rfl, rfl⟩
theorem stRel_tuneSt (st : St) (f : Fixed) : StRel st (tuneSt st f) := ⟨rfl, rfl⟩

theorem StRel.getRoot_eq {s t : St} (h : StRel s t) (i : Nat) : getRoot s i = getRoot t i := by
  unfold getRoot; rw [h.2]
theorem StRel.sharedOf_eq {s t : St} (h : StRel s t) (top : Option Nat) : sharedOf top s = sharedOf top t := by
  unfold sharedOf; cases top with
  | none => rfl
  | some i => simp only [h.getRoot_eq]
theorem StRel.seenItems_eq {s t : St} (h : StRel s t) (top : Option Nat) (items0 : List Item) :
    seenItems top items0 s = seenItems top items0 t := by
  unfold seenItems; rw [h.sharedOf_eq]
theorem StRel.textOf_eq {s t : St} (h : StRel s t) (env : CliEnv) (cd : Decl) : textOf env s cd = textOf env t cd := by
  unfold textOf; rw [h.1]
theorem StRel.bgOf_eq {s t : St} (h : StRel s t) (env : CliEnv) (cfg : Cfg) (items : List Item) :
    bgOf env cfg s items = bgOf env cfg t items := by
  unfold bgOf; rw [h.1]
theorem StRel.evalOf_eq {s t : St} (h : StRel s t) (env : CliEnv) (cfg : Cfg) (items : List Item) (cd : Decl) :
    evalOf env cfg s items cd = evalOf env cfg t items cd := by
  unfold evalOf; rw [h.textOf_eq, h.bgOf_eq]
theorem StRel.viaVarOf_eq {s t : St} (h : StRel s t) (env : CliEnv) (raw : Str) : viaVarOf env s raw = viaVarOf env t raw := by
  unfold viaVarOf; rw [h.1]
theorem StRel.fixedOf_eq {s t : St} (h : StRel s t) (env : CliEnv) (cfg : Cfg) (sel : Str) (items : List Item) (cd : Decl) :
    fixedOf env cfg s sel items cd = fixedOf env cfg t sel items cd := by
  unfold fixedOf; rw [h.textOf_eq, h.bgOf_eq, h.evalOf_eq]

theorem stRel_setRoot {s t : St} (h : StRel s t) (k : Nat) (x : List Item) : StRel (setRoot s k x) (setRoot t k x) := by
  refine ⟨h.1, ?_⟩; show List.map _ s.rootDecls = List.map _ t.rootDecls; rw [h.2]
theorem stRel_rewriteVar {s t : St} (h : StRel s t) (name : Str) (d : VarDef) (v : Str) :
    StRel (rewriteVar s name d v) (rewriteVar t name d v) := by
  unfold rewriteVar
  rw [h.getRoot_eq]
  cases getRoot t d.rule with
  | none => exact ⟨by show List.map _ s.vars = List.map _ t.vars; rw [h.1], h.2⟩
  | some its =>
    have h' := stRel_setRoot h d.rule (setDeclValue its d.item v)
    exact ⟨by show List.map _ s.vars = List.map _ t.vars; rw [h.1], h'.2⟩
theorem stRel_shareBack {s t s1 t1 : St} (h : StRel s t) (h1 : StRel s1 t1) (top : Option Nat) (x : List Item) :
    StRel (shareBack top s s1 x) (shareBack top t t1 x) := by
  unfold shareBack; rw [h.sharedOf_eq]
  cases sharedOf top t with
  | none => exact h1
  | some p => exact stRel_setRoot h1 _ _

/-- equal up to the `value` of a declaration -/
def sameItem : Item → Item → Prop
  | .decl d, .decl e => d.name = e.name ∧ d.lowerName = e.lowerName ∧ d.important = e.important ∧ d.comments = e.comments
  | .other t ok, .other t' ok' => t = t' ∧ ok = ok'
  | _, _ => False

def sameShape : List Item → List Item → Prop
  | [], [] => True
  | a :: as, b :: bs => sameItem a b ∧ sameShape as bs
  | _, _ => False

theorem sameItem_refl (a : Item) : sameItem a a := by cases a <;> simp [sameItem]
theorem sameItem_symm {a b : Item} (h : sameItem a b) : sameItem b a := by
  cases a <;> cases b <;> simp_all [sameItem]
theorem sameItem_trans {a b c : Item} (h : sameItem a b) (h' : sameItem b c) : sameItem a c := by
  cases a <;> cases b <;> cases c <;> simp_all [sameItem]

theorem sameItem_lowerName {d e : Decl} (h : sameItem (.decl d) (.decl e)) : d.lowerName = e.lowerName := h.2.1

theorem sameShape_refl : (a : List Item) → sameShape a a
  | [] => trivial
  | x :: xs => ⟨sameItem_refl x, sameShape_refl xs⟩
theorem sameShape_symm : {a b : List Item} → sameShape a b → sameShape b a
  | [], [], _ => trivial
  | _ :: _, _ :: _, h => ⟨sameItem_symm h.1, sameShape_symm h.2⟩
  | [], _ :: _, h | _ :: _, [], h => h.elim
theorem sameShape_trans : {a b c : List Item} → sameShape a b → sameShape b c → sameShape a c
  | [], [], [], _, _ => trivial
  | _ :: _, _ :: _, _ :: _, h, h' => ⟨sameItem_trans h.1 h'.1, sameShape_trans h.2 h'.2⟩
  | [], _ :: _, _, h, _ | _ :: _, [], _, h, _ | [], [], _ :: _, _, h | _ :: _, _ :: _, [], _, h => h.elim

/-- `update_decl_value` on one item -/
def setVal (v : Str) : Item → Item
  | .decl d => .decl { d with value := v ++ d.comments }
  | o => o

theorem sameItem_setVal (v : Str) (a : Item) : sameItem a (setVal v a) := by
  cases a <;> simp [sameItem, setVal]

theorem setDeclValue_nil (k : Nat) (v : Str) : setDeclValue [] k v = [] := rfl
theorem mapIdx_eq_self {α : Type} : (l : List α) → (f : Nat → α → α) → (∀ i x, f i x = x) → l.mapIdx f = l
  | [], _, _ => rfl
  | a :: as, f, h => by
    rw [List.mapIdx_cons, h 0 a, mapIdx_eq_self as (fun i => f (i + 1)) (fun i x => h (i + 1) x)]

theorem setDeclValue_cons_zero (a : Item) (as : List Item) (v : Str) :
    setDeclValue (a :: as) 0 v = setVal v a :: as := by
  simp only [setDeclValue, List.mapIdx_cons]
  rw [mapIdx_eq_self as _ (fun i x => by simp)]
  cases a <;> rfl
theorem setDeclValue_cons_succ (a : Item) (as : List Item) (k : Nat) (v : Str) :
    setDeclValue (a :: as) (k + 1) v = a :: setDeclValue as k v := by
  simp [setDeclValue, List.mapIdx_cons]

theorem setDeclValue_sameShape : (items : List Item) → (k : Nat) → (v : Str) → sameShape items (setDeclValue items k v)
  | [], _, _ => trivial
  | a :: as, 0, v => by rw [setDeclValue_cons_zero]; exact ⟨sameItem_setVal v a, sameShape_refl as⟩
  | a :: as, k + 1, v => by
    rw [setDeclValue_cons_succ]; exact ⟨sameItem_refl a, setDeclValue_sameShape as k v⟩

/-- a scan with an accumulator is the scan from scratch, shifted by the start index, falling back on the accumulator -/
theorem lastDecl_go_eq (n : Str) : (items : List Item) → (i : Nat) → (acc : Option (Nat × Decl)) →
    lastDecl.go n items i acc = match lastDecl.go n items 0 none with | some (j, d) => some (i + j, d) | none => acc
  | [], _, _ => rfl
  | it :: r, i, acc => by
    cases it
    all_goals
      simp only [lastDecl.go]
      rw [lastDecl_go_eq n r (i + 1), lastDecl_go_eq n r (0 + 1)]
      cases lastDecl.go n r 0 none with
      | some p => simp only []; congr 2; omega
      | none =>
        simp only []
        all_goals (split <;> rfl)  -- left when the head is a declaration: it is the hit or not, on both sides alike

theorem lastDecl_cons (it : Item) (r : List Item) (n : Str) :
    lastDecl (it :: r) n = match lastDecl r n with
      | some (j, d) => some (j + 1, d)
      | none => match it with
        | .decl d => if d.lowerName = n then some (0, d) else none
        | .other _ _ => none := by
  unfold lastDecl
  -- one step of the scan, then the scan of the tail from position 1 is the scan from 0, shifted (`lastDecl_go_eq`)
  cases it
  all_goals
    simp only [lastDecl.go]
    rw [lastDecl_go_eq]
    cases lastDecl.go n r 0 none <;> simp only [Nat.zero_add, Nat.add_comm]

theorem lastDecl_sameShape (n : Str) : {a b : List Item} → sameShape a b →
    (lastDecl a n).map (·.1) = (lastDecl b n).map (·.1)
  | [], [], _ => rfl
  | x :: xs, y :: ys, h => by
    have ih := lastDecl_sameShape n h.2
    rw [lastDecl_cons, lastDecl_cons]
    -- `ih` settles a hit in the tail (and refutes the mixed cases); else the heads decide, with equal `lowerName` by `sameItem`
    cases hx : lastDecl xs n <;> cases hy : lastDecl ys n <;> simp [hx, hy] at ih ⊢
    case some.some => exact ih
    case none.none =>
      match x, y, h.1 with
      | .decl d, .decl e, h1 => simp only [sameItem_lowerName h1]; split <;> rfl
      | .other .., .other .., _ => rfl
      | .decl _, .other .., h1 | .other .., .decl _, h1 => exact h1.elim
  | [], _ :: _, h | _ :: _, [], h => h.elim

theorem lastDecl_isSome_sameShape (n : Str) {a b : List Item} (h : sameShape a b) :
    (lastDecl a n).isSome = (lastDecl b n).isSome := by
  rw [← Option.isSome_map (f := (·.1)), lastDecl_sameShape n h, Option.isSome_map]

theorem lastDecl_cons_some {x : Item} {xs : List Item} {n : Str} {ci : Nat} {cd : Decl}
    (h : lastDecl (x :: xs) n = some (ci, cd)) :
    (∃ j, ci = j + 1 ∧ lastDecl xs n = some (j, cd)) ∨
      (ci = 0 ∧ lastDecl xs n = none ∧ x = .decl cd ∧ cd.lowerName = n) := by
  rw [lastDecl_cons] at h
  cases hx : lastDecl xs n with
  | some p =>
    obtain ⟨j, d⟩ := p
    simp [hx] at h
    obtain ⟨rfl, rfl⟩ := h
    exact .inl ⟨j, rfl, rfl⟩
  | none =>
    simp only [hx] at h
    cases x with
    | other t ok => simp at h
    | decl d =>
      simp only at h
      split at h
      · next hn => simp at h; obtain ⟨rfl, rfl⟩ := h; exact .inr ⟨rfl, rfl, rfl, hn⟩
      · simp at h

theorem lastDecl_setDeclValue (n : Str) (v : Str) : (items : List Item) → (ci : Nat) → (cd : Decl) →
    lastDecl items n = some (ci, cd) →
    lastDecl (setDeclValue items ci v) n = some (ci, { cd with value := v ++ cd.comments })
  | [], _, _, h => by cases h
  | x :: xs, ci, cd, h => by
    rcases lastDecl_cons_some h with ⟨j, rfl, hx⟩ | ⟨rfl, hx, rfl, hn⟩
    · rw [setDeclValue_cons_succ, lastDecl_cons, lastDecl_setDeclValue n v xs j cd hx]
    · rw [setDeclValue_cons_zero, lastDecl_cons, hx]
      simp [setVal, hn]

theorem lastDecl_getElem? (n : Str) : (items : List Item) → (ci : Nat) → (cd : Decl) →
    lastDecl items n = some (ci, cd) → items[ci]? = some (.decl cd) ∧ cd.lowerName = n
  | [], _, _, h => by cases h
  | x :: xs, ci, cd, h => by
    rcases lastDecl_cons_some h with ⟨j, rfl, hx⟩ | ⟨rfl, _, rfl, hn⟩
    · simpa using lastDecl_getElem? n xs j cd hx
    · exact ⟨rfl, hn⟩

theorem setDeclValue_getElem? (items : List Item) (k : Nat) (v : Str) (i : Nat) :
    (setDeclValue items k v)[i]? = (items[i]?).map fun it => if i = k then setVal v it else it := by
  simp only [setDeclValue, List.getElem?_mapIdx]
  cases items[i]? with
  | none => rfl
  | some it => simp only [Option.map]; split <;> (cases it <;> rfl)

theorem setDeclValue_length' (items : List Item) (k : Nat) (v : Str) :
    (setDeclValue items k v).length = items.length := by simp [setDeclValue]

theorem getRoot_mem {st : St} {i : Nat} {its : List Item} (h : getRoot st i = some its) : (i, its) ∈ st.rootDecls := by
  unfold getRoot at h
  cases hf : st.rootDecls.find? (·.1 = i) with
  | none => rw [hf] at h; cases h
  | some kv =>
    rw [hf] at h; cases h
    have h1 : kv.1 = i := by simpa using List.find?_some hf
    exact h1 ▸ List.mem_of_find?_eq_some hf

theorem lookup_map_set {κ β : Type} [DecidableEq κ] (l : List (κ × β)) (k : κ) (f : β → β) (i : κ) :
    ((l.map fun kv => if kv.1 = k then (k, f kv.2) else kv).find? (·.1 = i)).map (·.2) =
      if i = k then ((l.find? (·.1 = i)).map (·.2)).map f else (l.find? (·.1 = i)).map (·.2) := by
  have e : ((fun kv : κ × β => decide (kv.1 = i)) ∘ fun kv => if kv.1 = k then (k, f kv.2) else kv) =
      fun kv => decide (kv.1 = i) := by
    funext kv
    simp only [Function.comp]
    split
    · next h => rw [h]
    · rfl
  rw [List.find?_map, e]
  cases hf : l.find? (fun kv => decide (kv.1 = i)) with
  | none => split <;> rfl
  | some kv =>
    have h1 : kv.1 = i := by simpa using List.find?_some hf
    by_cases hk : i = k
    · simp [h1, hk]
    · simp [h1, hk]

theorem getRoot_setRoot (st : St) (k : Nat) (x : List Item) (i : Nat) :
    getRoot (setRoot st k x) i = if k = i then (getRoot st i).map (fun _ => x) else getRoot st i := by
  unfold getRoot setRoot
  rw [lookup_map_set st.rootDecls k (fun _ => x) i]
  by_cases hk : k = i
  · rw [if_pos hk, if_pos hk.symm]
  · rw [if_neg hk, if_neg (fun e => hk e.symm)]

/-- the keys of `rule_declarations_map`, in insertion order (a list; `RootKeys`, of `CmModel/CliErr.lean`, is an invariant) -/
def rootKeys (r : List (Nat × List Item)) : List Nat := r.map (·.1)

theorem setRoot_keys (st : St) (k : Nat) (x : List Item) : rootKeys (setRoot st k x).rootDecls = rootKeys st.rootDecls := by
  unfold setRoot rootKeys
  simp only [List.map_map]
  apply List.map_congr_left
  intro kv _
  simp only [Function.comp]
  split
  · next h => exact h.symm
  · rfl

/-- the blocks of `r'` are those of `r` up to declaration values: same keys, and every block of `r'` has the shape of the block of
    `r` under its key (the one direction `RootInv.mono` needs; nothing is smaller) -/
structure RootsLe (r r' : List (Nat × List Item)) : Prop where
  keys : rootKeys r' = rootKeys r
  shape : ∀ kv' ∈ r', ∃ kv ∈ r, kv.1 = kv'.1 ∧ sameShape kv.2 kv'.2

theorem RootsLe.refl (r : List (Nat × List Item)) : RootsLe r r :=
  ⟨rfl, fun kv h => ⟨kv, h, rfl, sameShape_refl _⟩⟩
theorem RootsLe.trans {a b c : List (Nat × List Item)} (h : RootsLe a b) (h' : RootsLe b c) : RootsLe a c := by
  refine ⟨h'.keys.trans h.keys, fun kv hkv => ?_⟩
  obtain ⟨kv1, h1, e1, s1⟩ := h'.shape kv hkv
  obtain ⟨kv2, h2, e2, s2⟩ := h.shape kv1 h1
  exact ⟨kv2, h2, e2.trans e1, sameShape_trans s2 s1⟩

theorem rootsLe_setRoot (st : St) (k : Nat) (its x : List Item) (h : getRoot st k = some its) (hs : sameShape its x) :
    RootsLe st.rootDecls (setRoot st k x).rootDecls := by
  refine ⟨setRoot_keys st k x, fun kv' hkv' => ?_⟩
  simp only [setRoot, List.mem_map] at hkv'
  obtain ⟨kv, hkv, e⟩ := hkv'
  by_cases hk : kv.1 = k
  · simp [hk] at e; subst e
    exact ⟨(k, its), getRoot_mem h, rfl, hs⟩
  · simp [hk] at e; subst e
    exact ⟨kv, hkv, rfl, sameShape_refl _⟩

theorem seenItems_none (items0 : List Item) (st : St) : seenItems none items0 st = items0 := rfl
theorem seenItems_some (i : Nat) (items0 : List Item) (st : St) :
    seenItems (some i) items0 st = (getRoot st i).getD items0 := by
  simp only [seenItems, sharedOf]; cases getRoot st i <;> rfl

/-- the state a result carries; for `.error`, the partial counts the per-file handler keeps -/
def resSt {α : Type} : Except St (α × St) → St
  | .ok (_, st) => st
  | .error st => st

def total (st : St) : Nat := st.accessible + st.tuned + st.failed

/-- `st'` is `st` after `k` more rules with a text colour were classified: the three counters grew by `k` in total, none decreased,
    and each detail list grew at the front by exactly as many entries as its counter (`failedLen` / `fixedLen` say so additively,
    so that they compose without subtraction) -/
structure Grew (k : Nat) (st st' : St) : Prop where
  total : total st' = total st + k
  acc : st.accessible ≤ st'.accessible
  tuned : st.tuned ≤ st'.tuned
  failed : st.failed ≤ st'.failed
  failedLen : st'.failedDetails.length + st.failed = st.failedDetails.length + st'.failed
  fixedLen : st'.fixedDetails.length + st.tuned = st.fixedDetails.length + st'.tuned
  failedSuffix : st.failedDetails <:+ st'.failedDetails
  fixedSuffix : st.fixedDetails <:+ st'.fixedDetails

theorem Grew.refl (st : St) : Grew 0 st st :=
  ⟨rfl, Nat.le_refl _, Nat.le_refl _, Nat.le_refl _, rfl, rfl, List.suffix_refl _, List.suffix_refl _⟩

theorem Grew.trans {a b : Nat} {s1 s2 s3 : St} (h : Grew a s1 s2) (h' : Grew b s2 s3) : Grew (a + b) s1 s3 where
  total := by have := h.total; have := h'.total; omega
  acc := Nat.le_trans h.acc h'.acc
  tuned := Nat.le_trans h.tuned h'.tuned
  failed := Nat.le_trans h.failed h'.failed
  failedLen := by have := h.failedLen; have := h'.failedLen; omega
  fixedLen := by have := h.fixedLen; have := h'.fixedLen; omega
  failedSuffix := h.failedSuffix.trans h'.failedSuffix
  fixedSuffix := h.fixedSuffix.trans h'.fixedSuffix

/-- equal counters and detail lists; the table and the blocks may differ (`StRel` is the other half) -/
def SameCounts (s t : St) : Prop :=
  s.accessible = t.accessible ∧ s.tuned = t.tuned ∧ s.failed = t.failed ∧
    s.failedDetails = t.failedDetails ∧ s.fixedDetails = t.fixedDetails

theorem SameCounts.acc {s t : St} (h : SameCounts s t) : s.accessible = t.accessible := h.1
theorem SameCounts.tuned {s t : St} (h : SameCounts s t) : s.tuned = t.tuned := h.2.1
theorem SameCounts.failed {s t : St} (h : SameCounts s t) : s.failed = t.failed := h.2.2.1
theorem SameCounts.failedDetails {s t : St} (h : SameCounts s t) : s.failedDetails = t.failedDetails := h.2.2.2.1
theorem SameCounts.fixedDetails {s t : St} (h : SameCounts s t) : s.fixedDetails = t.fixedDetails := h.2.2.2.2

theorem SameCounts.refl (s : St) : SameCounts s s := ⟨rfl, rfl, rfl, rfl, rfl⟩
theorem SameCounts.symm {s t : St} (h : SameCounts s t) : SameCounts t s :=
  ⟨h.acc.symm, h.tuned.symm, h.failed.symm, h.failedDetails.symm, h.fixedDetails.symm⟩

/-- `Grew` only looks at the counters and detail lists -/
theorem Grew.congr {k : Nat} {s1 s2 t1 t2 : St} (h : Grew k s1 s2) (e1 : SameCounts s1 t1) (e2 : SameCounts s2 t2) :
    Grew k t1 t2 := by
  -- with the states taken apart, `SameCounts` identifies the five fields `Grew` reads
  cases s1; cases s2; cases t1; cases t2
  obtain ⟨rfl, rfl, rfl, rfl, rfl⟩ := e1
  obtain ⟨rfl, rfl, rfl, rfl, rfl⟩ := e2
  exact ⟨h.total, h.acc, h.tuned, h.failed, h.failedLen, h.fixedLen, h.failedSuffix, h.fixedSuffix⟩

theorem setRoot_sameCounts (st : St) (k : Nat) (x : List Item) : SameCounts (setRoot st k x) st :=
  ⟨rfl, rfl, rfl, rfl, rfl⟩
theorem rewriteVar_sameCounts (st1 : St) (name : Str) (d : VarDef) (v : Str) : SameCounts (rewriteVar st1 name d v) st1 := by
  unfold rewriteVar; cases getRoot st1 d.rule <;> exact ⟨rfl, rfl, rfl, rfl, rfl⟩
theorem shareBack_sameCounts (top : Option Nat) (st st1 : St) (x : List Item) : SameCounts (shareBack top st st1 x) st1 := by
  unfold shareBack; split <;> exact ⟨rfl, rfl, rfl, rfl, rfl⟩

/-- `if color_decl:` -/
def hasColor (items : List Item) : Bool := (lastDecl items "color".toList).isSome
/-- what one rule adds to the counters -/
def countItems (items : List Item) : Nat := if hasColor items then 1 else 0

theorem hasColor_sameShape {a b : List Item} (h : sameShape a b) : hasColor a = hasColor b := by
  unfold hasColor; exact lastDecl_isSome_sameShape _ h

theorem grew_failSt (st : St) (f : Failed) : Grew 1 st (failSt st f) :=
  ⟨by simp [total, failSt]; omega, Nat.le_refl _, Nat.le_refl _, Nat.le_succ _, by simp [failSt]; omega, rfl,
    ⟨[f], rfl⟩, List.suffix_refl _⟩
theorem grew_accSt (st : St) : Grew 1 st (accSt st) :=
  ⟨by simp [total, accSt]; omega, Nat.le_succ _, Nat.le_refl _, Nat.le_refl _, rfl, rfl,
    List.suffix_refl _, List.suffix_refl _⟩
theorem grew_tuneSt (st : St) (f : Fixed) : Grew 1 st (tuneSt st f) :=
  ⟨by simp [total, tuneSt]; omega, Nat.le_refl _, Nat.le_succ _, Nat.le_refl _, rfl, by simp [tuneSt]; omega,
    List.suffix_refl _, ⟨[f], rfl⟩⟩

theorem tunedStep_sameCounts (env : CliEnv) (cfg : Cfg) (top : Option Nat) (sel : Str) (items0 : List Item) (st : St)
    (ci : Nat) (cd : Decl) :
    SameCounts (resSt (tunedStep env cfg top sel items0 st ci cd)) (tuneSt st (fixedOf env cfg st sel (seenItems top items0 st) cd)) := by
  simp only [tunedStep]
  cases viaVarOf env st (strip env cd.value) with
  | some nd => exact rewriteVar_sameCounts _ _ _ _
  | none =>
    dsimp only
    split
    next hraised => exact SameCounts.refl _
    next hserialised => exact shareBack_sameCounts _ _ _ _

/-- a rule the tool adjusts counts as adjusted, once — also when re-serialising raises -/
theorem tunedStep_tuned (env : CliEnv) (cfg : Cfg) (top : Option Nat) (sel : Str) (items0 : List Item) (st : St)
    (ci : Nat) (cd : Decl) : (resSt (tunedStep env cfg top sel items0 st ci cd)).tuned = st.tuned + 1 :=
  (tunedStep_sameCounts env cfg top sel items0 st ci cd).tuned

/-- when re-serialising succeeds, the rule's `Fixed` record is the newest entry of the report -/
theorem tunedStep_ok_counts {env : CliEnv} {cfg : Cfg} {top : Option Nat} {sel : Str} {items0 items' : List Item} {st st' : St}
    {ci : Nat} {cd : Decl} (hok : tunedStep env cfg top sel items0 st ci cd = .ok (items', st')) :
    st'.tuned = st.tuned + 1 ∧
      st'.fixedDetails = fixedOf env cfg st sel (seenItems top items0 st) cd :: st.fixedDetails := by
  have hc := tunedStep_sameCounts env cfg top sel items0 st ci cd
  rw [hok] at hc
  exact ⟨hc.tuned, hc.fixedDetails⟩

theorem tunedStep_grew (env : CliEnv) (cfg : Cfg) (top : Option Nat) (sel : Str) (items0 : List Item) (st : St)
    (ci : Nat) (cd : Decl) : Grew 1 st (resSt (tunedStep env cfg top sel items0 st ci cd)) :=
  (grew_tuneSt st _).congr (SameCounts.refl _) (tunedStep_sameCounts env cfg top sel items0 st ci cd).symm

theorem processRule_grew (env : CliEnv) (cfg : Cfg) (top : Option Nat) (sel : Str) (items0 : List Item) (st : St) :
    Grew (countItems (seenItems top items0 st)) st (resSt (processRule env cfg top sel items0 st)) := by
  rw [processRule_eq_verdict]
  unfold countItems hasColor
  cases lastDecl (seenItems top items0 st) "color".toList with
  | none => exact Grew.refl st
  | some p =>
    obtain ⟨ci, cd⟩ := p
    dsimp only
    cases verdict (evalOf env cfg st (seenItems top items0 st) cd) with
    | accessible => exact grew_accSt st
    | failed inv => exact grew_failSt st _
    | tuned => exact tunedStep_grew env cfg top sel items0 st ci cd

theorem lookupVar_map_set (name v n' : Str) (vars : Vars) :
    lookupVar (vars.map fun kv => if kv.1 = name then (name, { kv.2 with value := v }) else kv) n' =
      if n' = name then (lookupVar vars name).map fun d => { d with value := v } else lookupVar vars n' := by
  unfold lookupVar
  rw [lookup_map_set vars name (fun d => { d with value := v }) n']
  by_cases hn : n' = name
  · subst hn; rw [if_pos rfl]
  · rw [if_neg hn, if_neg hn]

theorem rewriteVar_vars (st1 : St) (name : Str) (d : VarDef) (v : Str) :
    (rewriteVar st1 name d v).vars = st1.vars.map fun kv => if kv.1 = name then (name, { kv.2 with value := v }) else kv := by
  unfold rewriteVar; cases getRoot st1 d.rule <;> rfl

theorem viaVarOf_some {env : CliEnv} {st : St} {raw name : Str} {d : VarDef} (h : viaVarOf env st raw = some (name, d)) :
    containsVar raw = true ∧ searchVarSimple env raw = some name ∧ lookupVar st.vars name = some d := by
  unfold viaVarOf at h
  split at h
  · next hc =>
    split at h
    · next n hn =>
      cases hl : lookupVar st.vars n with
      | none => simp [hl] at h
      | some d' => simp [hl] at h; obtain ⟨rfl, rfl⟩ := h; exact ⟨hc, hn, hl⟩
    · simp at h
  · simp at h

theorem lookupVar_rewriteVar_self {st1 : St} {name : Str} {d : VarDef} (h : lookupVar st1.vars name = some d) (v : Str) :
    lookupVar (rewriteVar st1 name d v).vars name = some { d with value := v } := by
  rw [rewriteVar_vars, lookupVar_map_set, if_pos rfl, h]; rfl

theorem getRoot_rewriteVar (st1 : St) (name : Str) (d : VarDef) (v : Str) (i : Nat) :
    getRoot (rewriteVar st1 name d v) i =
      match getRoot st1 d.rule with
      | some its => if d.rule = i then some (setDeclValue its d.item v) else getRoot st1 i
      | none => getRoot st1 i := by
  unfold rewriteVar
  cases h : getRoot st1 d.rule with
  | none => rfl
  | some its =>
    show getRoot (setRoot st1 d.rule (setDeclValue its d.item v)) i = _
    rw [getRoot_setRoot]
    by_cases hi : d.rule = i
    · simp only [hi, if_true]; rw [← hi, h]; rfl
    · simp only [hi, if_false]

theorem getRoot_rewriteVar_eq_none {st1 : St} {name : Str} {d : VarDef} {v : Str} {i : Nat} :
    getRoot (rewriteVar st1 name d v) i = none ↔ getRoot st1 i = none := by
  rw [getRoot_rewriteVar]
  cases hd : getRoot st1 d.rule with
  | none => rfl
  | some its =>
    dsimp only
    split
    · next h => rw [← h, hd]; simp
    · rfl

theorem rewriteVar_rootsLe (st1 : St) (name : Str) (d : VarDef) (v : Str) :
    RootsLe st1.rootDecls (rewriteVar st1 name d v).rootDecls := by
  unfold rewriteVar
  cases h : getRoot st1 d.rule with
  | none => exact RootsLe.refl _
  | some its => exact rootsLe_setRoot st1 d.rule its _ h (setDeclValue_sameShape its d.item v)

theorem sharedOf_some {top : Option Nat} {st : St} {i : Nat} {its : List Item} (h : sharedOf top st = some (i, its)) :
    top = some i ∧ getRoot st i = some its := by
  unfold sharedOf at h
  cases top with
  | none => simp at h
  | some j =>
    cases hg : getRoot st j with
    | none => simp [hg] at h
    | some a => simp [hg] at h; obtain ⟨rfl, rfl⟩ := h; exact ⟨rfl, hg⟩

theorem seenItems_of_shared {top : Option Nat} {st : St} {i : Nat} {its : List Item} (items0 : List Item)
    (h : sharedOf top st = some (i, its)) : seenItems top items0 st = its := by
  simp only [seenItems, h]

theorem shareBack_rootsLe (top : Option Nat) {st st1 : St} (h1 : StRel st st1) (items0 : List Item) (k : Nat) (v : Str) :
    RootsLe st.rootDecls (shareBack top st st1 (setDeclValue (seenItems top items0 st) k v)).rootDecls := by
  unfold shareBack
  rw [h1.2]
  cases h : sharedOf top st with
  | none => exact RootsLe.refl _
  | some p =>
    obtain ⟨i, its⟩ := p
    rw [seenItems_of_shared items0 h]
    exact rootsLe_setRoot st1 i its _ ((h1.getRoot_eq i).symm.trans (sharedOf_some h).2) (setDeclValue_sameShape its k v)

theorem processRule_rootsLe (env : CliEnv) (cfg : Cfg) (top : Option Nat) (sel : Str) (items0 : List Item) (st : St) :
    RootsLe st.rootDecls (resSt (processRule env cfg top sel items0 st)).rootDecls := by
  rw [processRule_eq_verdict]
  cases lastDecl (seenItems top items0 st) "color".toList with
  | none => exact RootsLe.refl _
  | some p =>
    obtain ⟨ci, cd⟩ := p
    dsimp only
    cases verdict (evalOf env cfg st (seenItems top items0 st) cd) with
    | tuned =>
      simp only [tunedStep]
      cases viaVarOf env st (strip env cd.value) with
      | some nd =>
        obtain ⟨name, d⟩ := nd
        exact rewriteVar_rootsLe (tuneSt st _) name d _
      | none =>
        dsimp only
        split
        next hraised => exact RootsLe.refl _
        next hserialised => exact shareBack_rootsLe top (stRel_tuneSt st _) items0 ci _
    | accessible => exact RootsLe.refl _
    | failed inv => exact RootsLe.refl _

theorem itemsAfterVar_shape (top : Option Nat) (items0 : List Item) {st st1 : St} (h1 : StRel st st1) (name : Str) (d : VarDef)
    (v : Str) :
    sameShape (seenItems top items0 st) (itemsAfterVar top (seenItems top items0 st) (rewriteVar st1 name d v)) := by
  cases top with
  | none => exact sameShape_refl _
  | some i =>
    simp only [itemsAfterVar, seenItems_some, getRoot_rewriteVar]
    simp only [← h1.getRoot_eq]
    cases hd : getRoot st d.rule with
    | none => simp only; cases getRoot st i <;> exact sameShape_refl _
    | some its =>
      simp only
      by_cases hi : d.rule = i
      · subst hi; simp only [if_true, hd, Option.getD]; exact setDeclValue_sameShape its d.item v
      · simp only [hi, if_false]; cases getRoot st i <;> exact sameShape_refl _

theorem tunedStep_shape (env : CliEnv) (cfg : Cfg) (top : Option Nat) (sel : Str) (items0 : List Item) (st : St)
    (ci : Nat) (cd : Decl) (items' : List Item) (st' : St)
    (hok : tunedStep env cfg top sel items0 st ci cd = .ok (items', st')) : sameShape (seenItems top items0 st) items' := by
  simp only [tunedStep] at hok
  cases h : viaVarOf env st (strip env cd.value) with
  | some nd =>
    obtain ⟨name, d⟩ := nd
    rw [h] at hok
    cases hok
    exact itemsAfterVar_shape top items0 (stRel_tuneSt st _) name d _
  | none =>
    rw [h] at hok
    dsimp only at hok
    split at hok
    next hraised => cases hok
    next hserialised => cases hok; exact setDeclValue_sameShape _ _ _

/-- two results agree on the output and leave states that differ at most in the counters -/
def ResRel {α : Type} : Except St (α × St) → Except St (α × St) → Prop
  | .ok (a, s), .ok (a', s') => a = a' ∧ StRel s s'
  | .error s, .error s' => StRel s s'
  | _, _ => False

theorem ResRel.ite {α : Type} {c : Prop} [Decidable c] {a b a' b' : Except St (α × St)} (h1 : ResRel a a')
    (h2 : ResRel b b') : ResRel (if c then a else b) (if c then a' else b') := by
  split <;> assumption

theorem tunedStep_rel (env : CliEnv) (cfg : Cfg) (top : Option Nat) (sel : Str) (items0 : List Item) {s t : St}
    (h : StRel s t) (ci : Nat) (cd : Decl) :
    ResRel (tunedStep env cfg top sel items0 s ci cd) (tunedStep env cfg top sel items0 t ci cd) := by
  simp only [tunedStep, h.seenItems_eq, h.evalOf_eq, h.viaVarOf_eq, h.fixedOf_eq]
  have h1 := (stRel_tuneSt s (fixedOf env cfg t sel (seenItems top items0 t) cd)).symm.trans
    (h.trans (stRel_tuneSt t (fixedOf env cfg t sel (seenItems top items0 t) cd)))
  cases viaVarOf env t (strip env cd.value) with
  | some nd =>
    obtain ⟨name, d⟩ := nd
    have h2 := stRel_rewriteVar h1 name d (evalOf env cfg t (seenItems top items0 t) cd).tuned
    refine ⟨?_, h2⟩
    unfold itemsAfterVar
    cases top with
    | none => rfl
    | some i => simp only [h2.getRoot_eq]
  | none => exact .ite h1 ⟨rfl, stRel_shareBack h h1 top _⟩

/-- the conditions `processRule` tests only read the table and the blocks: both runs take the same branch -/
theorem processRule_rel (env : CliEnv) (cfg : Cfg) (top : Option Nat) (sel : Str) (items0 : List Item) {s t : St}
    (h : StRel s t) :
    ResRel (processRule env cfg top sel items0 s) (processRule env cfg top sel items0 t) := by
  rw [processRule_eq_verdict, processRule_eq_verdict, h.seenItems_eq top items0]
  cases lastDecl (seenItems top items0 t) "color".toList with
  | none => exact ⟨rfl, h⟩
  | some p =>
    obtain ⟨ci, cd⟩ := p
    dsimp only
    rw [h.evalOf_eq, h.textOf_eq, h.bgOf_eq]
    cases verdict (evalOf env cfg t (seenItems top items0 t) cd) with
    | tuned => exact tunedStep_rel env cfg top sel items0 h ci cd
    | accessible => exact ⟨rfl, h⟩
    | failed inv => exact ⟨rfl, h⟩

end Cm.Cli
