import CmProofs.CliTree
/-!
# Lemmas for the static tie of the top-level loop of `process_nodes_recursive` (`CmProps/C08rulestop.lean`)

The code looks every top-level node up in `rule_declarations` (`top = some i` for node number i); the model's `processTop`
passes the index only for `:root` / `html` rules. Both agree when only such rules have a pre-parsed block (`RootKeys`, in
`CmModel/CliErr.lean`).
-/
namespace Cm.Cli

theorem onError_bind {α β : Type} {x y : Except St α} {g g' : α → Except St β} (h : onError x = onError y)
    (hg : ∀ a, y = .ok a → onError (g a) = onError (g' a)) : onError (x >>= g) = onError (y >>= g') := by
  cases x with
  | error e =>
    cases y with
    | error e' => injection h with h; exact congrArg Except.error h
    | ok b => cases h
  | ok a =>
    cases y with
    | error e' => cases h
    | ok b => cases h; exact hg _ rfl

theorem processRule_top_none (env : CliEnv) (cfg : Cfg) (i : Nat) (sel : Str) (items : List Item) (st : St)
    (hg : getRoot st i = none) :
    processRule env cfg (some i) sel items st = processRule env cfg none sel items st := by
  rw [processRule_eq_verdict, processRule_eq_verdict]
  have hseen : seenItems (some i) items st = seenItems none items st := by
    simp only [seenItems, sharedOf, hg, Option.map_none]
  have ht : ∀ ci cd, tunedStep env cfg (some i) sel items st ci cd = tunedStep env cfg none sel items st ci cd := by
    intro ci cd
    unfold tunedStep
    rw [hseen]
    cases hv : viaVarOf env st (strip env cd.value) with
    | none => simp only [shareBack, sharedOf, hg, Option.map_none]
    | some nd =>
      simp only [itemsAfterVar]
      rw [getRoot_rewriteVar_eq_none.2 (((stRel_tuneSt st _).getRoot_eq i).symm.trans hg)]
      rfl
  simp only [hseen, ht]

/-- passing `some i` for every node (the code) is passing `topOf n i` (the model) -/
theorem processNode_topOf (env : CliEnv) (cfg : Cfg) (n : Node) (ns : List Node) (i : Nat) (st : St)
    (hk : RootKeys (n :: ns) i st.rootDecls) :
    processNode env cfg (some i) st n = processNode env cfg (topOf n i) st n := by
  cases n with
  | rule sel items =>
    simp only [topOf]
    split
    · rfl
    · next hsel =>
      have hg : getRoot st i = none := by
        cases hg : getRoot st i with
        | none => rfl
        | some its =>
          obtain ⟨sel', items', e, hr⟩ := hk _ (getRoot_mem hg) 0 _ rfl rfl
          cases e; exact absurd hr hsel
      rw [processNode_rule, processNode_rule, processRule_top_none env cfg i sel items st hg]
  | «at» kw pre body => rw [processNode_at, processNode_at]
  | other t ok => rw [processNode_other, processNode_other]

end Cm.Cli
