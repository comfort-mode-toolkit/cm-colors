import CmProofs.ParseTok
/-!
# `rgb(…)` / `rgba(…)` strings: from the text to the colour (any faithful oracle, any table without `(` in a
key; exact carrier)

`SepToks b ts`: the body `b` consists of the tokens `ts` (each with its value and kind) separated by blanks and
commas, any number of them;
`rgbFn_text` is all the parser does before it reads the numbers. Four or more tokens: `rgba_string_many`; the
three-token theorem is `C07.rgb_string_ascii`.
-/
namespace Cm.ParseSpec
open Cm Cm.Parse

/-- a faithful oracle's `\d` on an ASCII character -/
theorem isDig_faithful {cls : CharCls} (hf : AsciiFaithful cls) {c : Char} (h : c.toNat < 128) :
    NumRe.isDig cls c = isD c :=
  congrArg Option.isSome (hf.digit c h)

/-- a numeral does not start with a sign -/
theorem Numeral.matchAt_eq_pctAt (cls : CharCls) {b : Str} {v : ℚ} (h : Numeral b v) (rest : Str) :
    NumRe.matchAt cls (b ++ rest) = pctAt (coreAt cls (b ++ rest)) := by
  obtain ⟨c, cs, rfl⟩ := List.exists_cons_of_ne_nil h.ne_nil
  rcases h.chars c List.mem_cons_self with hc | rfl
  · exact matchAt_nosign cls _ (digFacts c hc).ne_minus (digFacts c hc).ne_plus
  · exact matchAt_nosign cls _ (by decide) (by decide)

/-- what follows a token inside the parentheses: a separator or the closing parenthesis -/
def EndsTok (rest : Str) : Prop := ∀ c r, rest = c :: r → c = ' ' ∨ c = ',' ∨ c = ')'

/-- text in which no token starts: ASCII characters that are no digit, sign or point (`Inert` at every faithful
    oracle, `isDig_faithful`) -/
def Junk (j : Str) : Prop := ∀ c ∈ j, c.toNat < 128 ∧ isD c = false ∧ c ≠ '-' ∧ c ≠ '+' ∧ c ≠ '.'

theorem allD_isDig {cls : CharCls} (hf : AsciiFaithful cls)
    {ds : Str} (hd : AllD ds) : ∀ c ∈ ds, NumRe.isDig cls c = true :=
  fun c hc => (isDig_faithful hf (isD_lt c (hd c hc))).trans (hd c hc)

theorem Numeral.coreAt {cls : CharCls} (hf : AsciiFaithful cls)
    {b : Str} {v : ℚ} (h : Numeral b v) {rest : Str}
    (hr : ∀ c r, rest = c :: r → c.toNat < 128 ∧ isD c = false ∧ c ≠ '.') :
    coreAt cls (b ++ rest) = some (b, rest) := by
  have hr' : ∀ c r, rest = c :: r → NumRe.isDig cls c = false ∧ c ≠ '.' := fun c r he =>
    ⟨(isDig_faithful hf (hr c r he).1).trans (hr c r he).2.1, (hr c r he).2.2⟩
  cases h with
  | int hne hd => exact coreAt_int cls hne (allD_isDig hf hd) hr'
  | frac hd hfs hfne =>
    rw [List.append_assoc, List.cons_append]
    exact coreAt_frac cls ((isDig_faithful hf (by decide)).trans (by decide)) (allD_isDig hf hd)
      (allD_isDig hf hfs) hfne fun c r he => (hr' c r he).1

/-- the regex on a numeral followed by a separator or the closing parenthesis -/
theorem Numeral.matchAt {cls : CharCls} (hf : AsciiFaithful cls)
    {b : Str} {v : ℚ} (h : Numeral b v) {rest : Str}
    (hr : EndsTok rest) : NumRe.matchAt cls (b ++ rest) = some (b, rest) := by
  rw [h.matchAt_eq_pctAt, h.coreAt hf fun c r he => by rcases hr c r he with rfl | rfl | rfl <;> decide]
  apply pctAt_other
  intro r he
  rcases hr _ _ he with h | h | h <;> exact absurd h (by decide)

/-- … and on a numeral followed by `%`, whatever comes after -/
theorem Numeral.matchAt_pct {cls : CharCls} (hf : AsciiFaithful cls) {b : Str} {v : ℚ} (h : Numeral b v)
    (rest : Str) : NumRe.matchAt cls (b ++ '%' :: rest) = some (b ++ ['%'], rest) := by
  rw [h.matchAt_eq_pctAt, h.coreAt hf fun c r he => by cases he; decide, pctAt_pct]

theorem NumTok.matchAt {cls : CharCls} (hf : AsciiFaithful cls)
    {t : Str} {v : ℚ} {p : Bool} (h : NumTok t v p)
    {rest : Str} (hr : EndsTok rest) : NumRe.matchAt cls (t ++ rest) = some (t, rest) := by
  cases h with
  | plain h => exact h.matchAt hf hr
  | pct h =>
    rw [List.append_assoc]
    exact h.matchAt_pct hf rest

theorem NumTok.numberToken_of {cls : CharCls} (hf : AsciiFaithful cls)
    {t : Str} {v : ℚ} {p : Bool} (h : NumTok t v p) (n : List (Str × Str))
    (component : Bool) :
    @Cm.Parse.numberToken ℚ ratNum ⟨cls, n⟩ t component =
      if p then .ok (if component then pctComponent v else pctAlpha v)
      else @rangeToken ℚ ratNum v component := by
  have hst : Str.strip cls t = t := strip_tokChars hf h.chars
  cases h with
  | plain h =>
    simp only [Bool.false_eq_true, if_false]
    apply numberToken_plain
    · show Str.endsWith (Str.strip cls t) ['%'] = false
      rw [hst]
      exact endsWith_of_not_mem h.no_pct
    · show @PyFloat.parse cls ℚ ratNum (Str.strip cls t) = .ok v
      rw [hst]; exact h.parse_pos hf
  | pct h =>
    simp only [if_true]
    exact numberToken_pct ⟨cls, n⟩ component hst (h.parse_pos hf)

theorem findAll_junk {cls : CharCls} (hf : AsciiFaithful cls) {j : Str} (hj : Junk j) (s : Str) :
    NumRe.findAll cls (j ++ s) = NumRe.findAll cls s := by
  induction j with
  | nil => rfl
  | cons c cs ih =>
    obtain ⟨hlt, h1, h234⟩ := hj c List.mem_cons_self
    rw [List.cons_append, findAll_cons_none cls (matchAt_inert cls _ ⟨(isDig_faithful hf hlt).trans h1, h234⟩)]
    exact ih fun x hx => hj x (List.mem_cons_of_mem _ hx)

theorem findAll_tok {cls : CharCls} (hf : AsciiFaithful cls)
    {t : Str} {v : ℚ} {p : Bool} (h : NumTok t v p) {rest : Str} (hr : EndsTok rest) :
    NumRe.findAll cls (t ++ rest) = t :: NumRe.findAll cls rest :=
  findAll_append_some cls (h.matchAt hf hr) h.ne_nil


theorem NumTok.numberToken {t : Str} {v : ℚ} {p : Bool} (h : NumTok t v p) (n : List (Str × Str))
    (component : Bool) :
    @numberToken ℚ ratNum ⟨asciiCls, n⟩ t component =
      if p then .ok (if component then pctComponent v else pctAlpha v)
      else @rangeToken ℚ ratNum v component :=
  h.numberToken_of asciiFaithful_ascii n component

theorem AllSep.junk {j : Str} (h : AllSep j) : Junk j := by
  intro c hc
  rcases h c hc with rfl | rfl <;> exact ⟨by decide, by decide, by decide, by decide, by decide⟩

theorem endsTok_sep_append {j : Str} (h : AllSep j) (hne : j ≠ []) (s : Str) : EndsTok (j ++ s) := by
  obtain ⟨c, cs, rfl⟩ := List.exists_cons_of_ne_nil hne
  intro c' r he
  cases he
  exact (h c List.mem_cons_self).imp_right Or.inl

theorem endsTok_sep_close {j : Str} (h : AllSep j) : EndsTok (j ++ [')']) := by
  cases j with
  | nil => intro c r he; cases he; exact Or.inr (Or.inr rfl)
  | cons c cs => exact endsTok_sep_append h (by simp) _

theorem junk_close : Junk [')'] := by unfold Junk; decide

/-- the value of a colour-component token: a percentage is scaled to 0–255 and clamped -/
def compOf (v : ℚ) (p : Bool) : ℚ := if p then pctComponent v else v

def alphaOf (v : ℚ) (p : Bool) : ℚ := if p then pctAlpha v else v

theorem NumTok.component_of {cls : CharCls} (hf : AsciiFaithful cls) {t : Str} {v : ℚ} {p : Bool}
    (h : NumTok t v p) (n : List (Str × Str)) (hr : p = false → v ≤ 255) :
    @Cm.Parse.numberToken ℚ ratNum ⟨cls, n⟩ t true = .ok (compOf v p) := by
  rw [h.numberToken_of hf n true]
  unfold compOf
  cases p
  · simp only [Bool.false_eq_true, if_false]
    rw [rangeToken_component, if_pos ⟨h.nonneg, hr rfl⟩]
  · simp

theorem NumTok.component {t : Str} {v : ℚ} {p : Bool} (h : NumTok t v p) (n : List (Str × Str))
    (hr : p = false → v ≤ 255) :
    @Cm.Parse.numberToken ℚ ratNum ⟨asciiCls, n⟩ t true = .ok (compOf v p) :=
  h.component_of asciiFaithful_ascii n hr

theorem NumTok.alpha_of {cls : CharCls} (hf : AsciiFaithful cls)
    {t : Str} {v : ℚ} {p : Bool} (h : NumTok t v p)
    (n : List (Str × Str)) (hr : p = false → v ≤ 1) :
    @Cm.Parse.numberToken ℚ ratNum ⟨cls, n⟩ t false = .ok (alphaOf v p) := by
  rw [h.numberToken_of hf n false]
  unfold alphaOf
  cases p
  · simp only [Bool.false_eq_true, if_false]
    rw [rangeToken_alpha, if_pos ⟨h.nonneg, hr rfl⟩]
  · simp

theorem NumTok.round_component {t : Str} {v : ℚ} {p : Bool} (h : NumTok t v p)
    (hr : p = false → v ≤ 255) :
    clamp255 (roundQ (compOf v p)) = roundQ (compOf v p) ∧ 0 ≤ roundQ (compOf v p) ∧
      roundQ (compOf v p) ≤ 255 := by
  have hm : 0 ≤ compOf v p ∧ compOf v p ≤ 255 := by
    unfold compOf
    cases p
    · exact ⟨h.nonneg, hr rfl⟩
    · exact pctComponent_mem v
  exact ⟨clamp255_id (roundQ_mem_byte hm), roundQ_mem_byte hm⟩

theorem NumTok.round_valid {t0 t1 t2 : Str} {v0 v1 v2 : ℚ} {p0 p1 p2 : Bool} (ht0 : NumTok t0 v0 p0)
    (ht1 : NumTok t1 v1 p1) (ht2 : NumTok t2 v2 p2) (hr0 : p0 = false → v0 ≤ 255)
    (hr1 : p1 = false → v1 ≤ 255) (hr2 : p2 = false → v2 ≤ 255) :
    validRgb (roundQ (compOf v0 p0), roundQ (compOf v1 p1), roundQ (compOf v2 p2)) = true :=
  (validRgb_iff _).2 ⟨(ht0.round_component hr0).2, (ht1.round_component hr1).2, (ht2.round_component hr2).2⟩

/-- `t₀ j₁ t₁ … jₙ tₙ j` : number tokens separated by non-empty runs of blanks and commas, with an
    optional run at the end -/
inductive SepToks : Str → List (Str × ℚ × Bool) → Prop
  | last {t j : Str} {v : ℚ} {p : Bool} (ht : NumTok t v p) (hj : AllSep j) : SepToks (t ++ j) [(t, v, p)]
  | cons {t j rest : Str} {ts : List (Str × ℚ × Bool)} {v : ℚ} {p : Bool} (ht : NumTok t v p) (hj : AllSep j)
      (hne : j ≠ []) (hr : SepToks rest ts) : SepToks (t ++ (j ++ rest)) ((t, v, p) :: ts)

theorem SepToks.head {b t : Str} {v : ℚ} {p : Bool} {ts : List (Str × ℚ × Bool)}
    (h : SepToks b ((t, v, p) :: ts)) : NumTok t v p := by
  cases h with
  | last ht _ => exact ht
  | cons ht _ _ _ => exact ht

theorem SepToks.tail {b : Str} {x y : Str × ℚ × Bool} {ts : List (Str × ℚ × Bool)}
    (h : SepToks b (x :: y :: ts)) : ∃ b', SepToks b' (y :: ts) := by
  cases h with
  | cons _ _ _ hr => exact ⟨_, hr⟩

theorem SepToks.low {b : Str} {ts : List (Str × ℚ × Bool)} (h : SepToks b ts) : ∀ c ∈ b, LowerFixed c := by
  induction h with
  | last ht hj => exact low_append (low_of_tokChars ht.chars) (sep_low hj)
  | cons ht hj _ _ ih => exact low_append (low_of_tokChars ht.chars) (low_append (sep_low hj) ih)

theorem SepToks.findAll {cls : CharCls} (hf : AsciiFaithful cls) {b : Str} {ts : List (Str × ℚ × Bool)}
    (h : SepToks b ts) : NumRe.findAll cls (b ++ [')']) = ts.map Prod.fst := by
  induction h with
  | last ht hj =>
    -- (`)` is junk before the empty text)
    rw [List.append_assoc, findAll_tok hf ht (endsTok_sep_close hj), findAll_junk hf hj.junk,
      ← List.append_nil [')'], findAll_junk hf junk_close, findAll_nil]
    rfl
  | cons ht hj hne _ ih =>
    rw [List.append_assoc, List.append_assoc, findAll_tok hf ht (endsTok_sep_append hj hne _),
      findAll_junk hf hj.junk, ih, List.map_cons]

/-- what `parse_color_to_rgb` finds out about `rgb(…)` / `rgba(…)` before it looks at the numbers -/
structure RgbText (cls : CharCls) (n : List (Str × Str)) (s : Str) : Prop where
  strip : Str.strip cls s = s
  lower : Str.lower cls s = s
  lookup : lookupNamed ⟨cls, n⟩ s = none
  hash : Str.startsWith s ['#'] = false
  bare : isBareHex s = false
  hsla : Str.startsWith s "hsla(".toList = false
  hsl : Str.startsWith s "hsl(".toList = false
  rgb : (Str.startsWith s "rgb(".toList || Str.startsWith s "rgba(".toList) = true

/-- `RgbText` at the ASCII oracle and the generated table -/
structure RgbShape (s : Str) : Prop where
  strip : Str.strip asciiCls s = s
  lower : Str.lower asciiCls s = s
  lookup : lookupNamed ⟨asciiCls, namedEnv⟩ s = none
  hash : Str.startsWith s ['#'] = false
  bare : isBareHex s = false
  hsla : Str.startsWith s "hsla(".toList = false
  hsl : Str.startsWith s "hsl(".toList = false
  rgb : (Str.startsWith s "rgb(".toList || Str.startsWith s "rgba(".toList) = true

theorem RgbText.shape {s : Str} (T : RgbText asciiCls namedEnv s) : RgbShape s :=
  ⟨T.strip, T.lower, T.lookup, T.hash, T.bare, T.hsla, T.hsl, T.rgb⟩

/-- `_NUM_RE.findall` on `rgb(…)` / `rgba(…)` with any number of tokens returns the tokens (no keyword table involved) -/
theorem rgbFn_findAll {cls : CharCls} (hf : AsciiFaithful cls) {pre j0 b : Str} {ts : List (Str × ℚ × Bool)}
    (hpre : pre = "rgb(".toList ∨ pre = "rgba(".toList) (h0 : AllSep j0) (hb : SepToks b ts) :
    NumRe.findAll cls (pre ++ (j0 ++ b) ++ [')']) = ts.map Prod.fst := by
  have hj : Junk pre := by unfold Junk; rcases hpre with rfl | rfl <;> decide
  rw [List.append_assoc, List.append_assoc, findAll_junk hf hj, findAll_junk hf h0.junk, hb.findAll hf]

/-- … and, for every table without `(` in a keyword, the early branches of `parse_color_to_rgb` do not fire -/
theorem rgbFn_text {cls : CharCls} (hf : AsciiFaithful cls) {n : List (Str × Str)} (hn : ∀ kv ∈ n, '(' ∉ kv.1)
    {pre j0 b : Str} {ts : List (Str × ℚ × Bool)}
    (hpre : pre = "rgb(".toList ∨ pre = "rgba(".toList) (h0 : AllSep j0) (hb : SepToks b ts) :
    RgbText cls n (pre ++ (j0 ++ b) ++ [')']) := by
  have hfn : fnPre pre = true := by rcases hpre with rfl | rfl <;> decide
  have F := fnText hf hn hfn (low_append (sep_low h0) hb.low)
  refine ⟨F.strip, F.lower, F.lookup, F.hash, F.bare, ?_, ?_, ?_⟩
  -- the three prefix tests are decided by the first characters
  · rw [lit_hsla]; rcases hpre with rfl | rfl <;> rfl
  · rw [lit_hsl]; rcases hpre with rfl | rfl <;> rfl
  · rw [lit_rgb, lit_rgba]; rcases hpre with rfl | rfl <;> rfl

theorem alphaOf_mem {v : ℚ} {p : Bool} (h0 : 0 ≤ v) (hr : p = false → v ≤ 1) :
    0 ≤ alphaOf v p ∧ alphaOf v p ≤ 1 := by
  unfold alphaOf
  cases p
  · exact ⟨h0, hr rfl⟩
  · exact ⟨le_max_left _ _, max_le (by norm_num) (min_le_left _ _)⟩

theorem bgParsed_ok (bg : Option RGB) (hbg : ∀ b, bg = some b → validRgb b = true) :
    bgParsed bg = .ok (bg.getD (255, 255, 255)) ∧ validRgb (bg.getD (255, 255, 255)) = true := by
  cases bg with
  | none => exact ⟨rfl, by decide⟩
  | some b =>
    have := hbg b rfl
    unfold bgParsed
    simp [this]

/-- `rgba(…)` with four or more tokens (the parser reads the first four): the components are rounded,
    then blended over the background and rounded again -/
theorem rgba_string_many {cls : CharCls} (hf : AsciiFaithful cls) {n : List (Str × Str)}
    (hn : ∀ kv ∈ n, '(' ∉ kv.1) {pre j0 b t0 t1 t2 t3 : Str} {rest : List (Str × ℚ × Bool)} {v0 v1 v2 v3 : ℚ}
    {p0 p1 p2 p3 : Bool}
    (hpre : pre = "rgb(".toList ∨ pre = "rgba(".toList) (h0 : AllSep j0)
    (hb : SepToks b ((t0, v0, p0) :: (t1, v1, p1) :: (t2, v2, p2) :: (t3, v3, p3) :: rest))
    (hr0 : p0 = false → v0 ≤ 255) (hr1 : p1 = false → v1 ≤ 255) (hr2 : p2 = false → v2 ≤ 255)
    (hr3 : p3 = false → v3 ≤ 1)
    (bg : Option RGB) (hbg : ∀ b, bg = some b → validRgb b = true) :
    @parseStr ℚ ratNum ⟨cls, n⟩ (pre ++ (j0 ++ b) ++ [')']) bg =
      .ok (let k : RGB := bg.getD (255, 255, 255)
           let a := alphaOf v3 p3
           (roundQ (a * roundQ (compOf v0 p0) + (1 - a) * k.1),
            roundQ (a * roundQ (compOf v1 p1) + (1 - a) * k.2.1),
            roundQ (a * roundQ (compOf v2 p2) + (1 - a) * k.2.2))) := by
  -- the four tokens the parser reads
  have ht0 := hb.head
  obtain ⟨_, hb1⟩ := hb.tail
  have ht1 := hb1.head
  obtain ⟨_, hb2⟩ := hb1.tail
  have ht2 := hb2.head
  obtain ⟨_, hb3⟩ := hb2.tail
  have ht3 := hb3.head
  have S := rgbFn_text hf hn hpre h0 hb
  have hfind := rgbFn_findAll hf hpre h0 hb
  have hv := NumTok.round_valid ht0 ht1 ht2 hr0 hr1 hr2
  obtain ⟨hbgp, hbgv⟩ := bgParsed_ok bg hbg
  obtain ⟨al0, al1⟩ := alphaOf_mem ht3.nonneg hr3
  -- the dispatch reaches the token branch, the regex returns the tokens, each token reads as its value
  unfold parseStr
  simp only [S.strip, S.lower, S.lookup, S.hash, S.bare, S.hsla, S.hsl, S.rgb, Bool.or_self,
    Bool.false_eq_true, if_false, Bool.true_or, if_true, hfind, List.map_cons, ht0.component_of hf n hr0,
    ht1.component_of hf n hr1, ht2.component_of hf n hr2, ht3.alpha_of hf n hr3]
  simp only [bind, Except.bind, pure, Except.pure, hbgp]
  exact rgbaToRgb_rat hv al0 al1 hbgv

end Cm.ParseSpec
