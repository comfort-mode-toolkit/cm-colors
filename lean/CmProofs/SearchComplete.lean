import CmProofs.SearchWithin
/-!
# What the searches *do* find

The lightness bisection is followed through a ghost trace of the lightnesses it probes: three invariants over the set probed so
far, and the bracketing argument (a probe that misses the band keeps the band inside the interval). `generate_accessible_color` is
two phases and an early return per schedule entry, over one state invariant (`GMax`).

Words of the comments here and in `CmProps/C03search.lean`, for one call with chroma `c` and hue `h`: `cand L`, `d L`, `k L` are
`candAt`, `dAt`, `kAt`; `A L` is `Acc … L`, `T L` is `Meets … L`; the *band* at level `v` is `{L | Hit … v L}`. `Mono` stands for
the two fields of `MonoOn`, `DirOK` for `MonoOn` at the direction the code computes and on the side it searches, `Res` for "the band
is wider than what the halvings leave": a band point outside the final interval; at an ordered-field carrier `BandHyp.band`.
Every definition takes those of the section variables `O t bg thr target c h` that it mentions, in this order.
-/
namespace Cm
variable {α : Type} [Num α]

/-- the lightness probed by the next iteration -/
def bsMid (s : BS α) : α := (s.low + s.high) / (2.0 : α)

section line
variable (O : Leaf α) (t bg : RGB) (thr target c h : α)

/-- the candidate on the text's chroma/hue line at lightness `L` -/
def candAt (L : α) : RGB := O.ofOklch (L, c, h)
def dAt (L : α) : α := O.deltaE t (O.ofOklch (L, c, h))
def kAt (L : α) : α := O.contrast (O.ofOklch (L, c, h)) bg
/-- `A L`: the candidate at `L` is a valid colour within the tolerance -/
def Acc (L : α) : Prop :=
  O.validRgb (O.ofOklch (L, c, h)) = true ∧ Num.gt (O.deltaE t (O.ofOklch (L, c, h))) thr = false
/-- `T L`: the candidate at `L` meets the target -/
def Meets (L : α) : Prop := Num.ge (O.contrast (O.ofOklch (L, c, h)) bg) target = true

theorem Acc_iff_inTol (L : α) : Acc O t thr c h L ↔ InTol O t thr (candAt O c h L) := Iff.rfl

def SameRec (s s' : BS α) : Prop := s'.best = s.best ∧ s'.bestDE = s.bestDE ∧ s'.bestC = s.bestC
def RecordedAt (s' : BS α) (m : α) : Prop :=
  s'.best = some (candAt O c h m) ∧ s'.bestDE = dAt O t c h m ∧ s'.bestC = kAt O bg c h m

/-- What one iteration `s ↦ s'` does with its probe `m`. `A` and `T` stand for `Acc … m` and `Meets … m`, the one instance
    (`bsStep_spec`); they are parameters only to keep the five lines of `record` short. -/
structure BsStepSpec (up : Bool) (s s' : BS α) (m : α) (A T : Prop) : Prop where
  /-- the record: the five ways the step can treat its probe -/
  record :
    (¬ A ∧ SameRec s s') ∨
    (A ∧ T ∧ (Num.lt s.bestC target || Num.lt (dAt O t c h m) s.bestDE) = true ∧ RecordedAt O t bg c h s' m) ∨
    (A ∧ T ∧ (Num.lt s.bestC target || Num.lt (dAt O t c h m) s.bestDE) = false ∧ SameRec s s') ∨
    (A ∧ ¬ T ∧ Num.gt (kAt O bg c h m) s.bestC = true ∧ RecordedAt O t bg c h s' m) ∨
    (A ∧ ¬ T ∧ Num.gt (kAt O bg c h m) s.bestC = false ∧ SameRec s s')
  /-- the interval moves away from the text exactly on an in-tolerance probe that is below the target … -/
  away : A ∧ ¬ T → s'.low = (if up then m else s.low) ∧ s'.high = (if up then s.high else m)
  /-- … and towards the text otherwise -/
  towards : ¬ (A ∧ ¬ T) → s'.low = (if up then s.low else m) ∧ s'.high = (if up then m else s.high)

theorem BsStepSpec.same_or_recorded {up : Bool} {s s' : BS α} {m : α} {A T : Prop}
    (hstep : BsStepSpec O t bg target c h up s s' m A T) : SameRec s s' ∨ (A ∧ RecordedAt O t bg c h s' m) := by
  rcases hstep.record with ⟨_, hS⟩ | ⟨ha, _, _, hR⟩ | ⟨_, _, _, hS⟩ | ⟨ha, _, _, hR⟩ | ⟨_, _, _, hS⟩
  · exact Or.inl hS
  · exact Or.inr ⟨ha, hR⟩
  · exact Or.inl hS
  · exact Or.inr ⟨ha, hR⟩
  · exact Or.inl hS

theorem bsStep_spec (up : Bool) (s : BS α) :
    BsStepSpec O t bg target c h up s (bsStep O t bg thr target c h up s) (bsMid s)
      (Acc O t thr c h (bsMid s)) (Meets O bg target c h (bsMid s)) := by
  -- the three fields as one conjunction, so that one walk of the step's branches closes all of them by `simp`
  suffices h : _ ∧ _ ∧ _ from ⟨h.1, h.2.1, h.2.2⟩
  unfold Acc Meets SameRec RecordedAt candAt dAt kAt bsMid bsStep
  simp only []  -- reduces the `let`s the `unfold` exposes; no lemma
  generalize (s.low + s.high) / (2.0 : α) = m
  generalize O.ofOklch (m, c, h) = cd
  -- the step's own branching; every leaf computes
  cases hv : O.validRgb cd
  · cases up <;> simp
  · cases hd : Num.gt (O.deltaE t cd) thr
    · cases hk : Num.ge (O.contrast cd bg) target
      · cases hg : Num.gt (O.contrast cd bg) s.bestC <;> cases up <;> simp
      · cases hc : (Num.lt s.bestC target || Num.lt (O.deltaE t cd) s.bestDE) <;> cases up <;> simp
    · cases up <;> simp

/-- `bsLoop` that also returns the probed lightnesses, first probe first -/
def bsLoopTrace (up : Bool) : Nat → BS α → BS α × List α
  | 0, s => (s, [])
  | n+1, s =>
    let r := bsLoopTrace up n (bsStep O t bg thr target c h up s)
    (r.1, bsMid s :: r.2)

theorem bsLoopTrace_length (up : Bool) (n : Nat) (s : BS α) :
    (bsLoopTrace O t bg thr target c h up n s).2.length = n := by
  induction n generalizing s with
  | zero => rfl
  | succ n ih => simp only [bsLoopTrace, List.length_cons]; rw [ih]

/-- lifting a one-step invariant indexed by the set `P` of lightnesses probed so far to the loop. `Inv` is rewritten along an
    *equality* of predicates (`funext`, `propext`), so it need not be monotone in `P`: hence a predicate, not a list. -/
theorem bsLoop_induct (up : Bool) (Inv : (α → Prop) → BS α → Prop)
    (hstep : ∀ P s, Inv P s → Inv (fun x => x = bsMid s ∨ P x) (bsStep O t bg thr target c h up s))
    (n : Nat) (P : α → Prop) (s : BS α) (hs : Inv P s) :
    Inv (fun x => x ∈ (bsLoopTrace O t bg thr target c h up n s).2 ∨ P x)
      (bsLoop O t bg thr target c h up n s) := by
  induction n generalizing P s with
  | zero =>
    have e : (fun x => x ∈ (bsLoopTrace O t bg thr target c h up 0 s).2 ∨ P x) = P := by
      funext x; simp [bsLoopTrace]
    rw [e]; exact hs
  | succ n ih =>
    have e : (fun x => x ∈ (bsLoopTrace O t bg thr target c h up (n+1) s).2 ∨ P x) =
        (fun x => x ∈ (bsLoopTrace O t bg thr target c h up n (bsStep O t bg thr target c h up s)).2 ∨
          (x = bsMid s ∨ P x)) := by
      funext x; simp only [bsLoopTrace, List.mem_cons]
      exact propext (or_assoc.trans or_left_comm)
    rw [e]
    exact ih _ _ (hstep P s hs)

/-- (i): the recorded numbers belong to the recorded colour, which was probed -/
def BSRec (P : α → Prop) (s : BS α) : Prop :=
  ∀ r, s.best = some r → ∃ m, P m ∧ r = candAt O c h m ∧ Acc O t thr c h m ∧
    s.bestC = kAt O bg c h m ∧ s.bestDE = dAt O t c h m

theorem BSRec_same {P Q : α → Prop} {s s' : BS α} (hS : SameRec s s') (hPQ : ∀ x, P x → Q x)
    (hs : BSRec O t bg thr c h P s) : BSRec O t bg thr c h Q s' := by
  intro r hr
  obtain ⟨hb, hde, hc⟩ := hS
  rw [hb] at hr
  obtain ⟨m, hm, h1, h2, h3, h4⟩ := hs r hr
  exact ⟨m, hPQ m hm, h1, h2, by rw [hc]; exact h3, by rw [hde]; exact h4⟩

theorem BSRec_recorded {Q : α → Prop} {s' : BS α} {m : α} (hR : RecordedAt O t bg c h s' m)
    (ha : Acc O t thr c h m) (hQ : Q m) : BSRec O t bg thr c h Q s' := by
  intro r hr
  obtain ⟨hb, hde, hc⟩ := hR
  rw [hb] at hr
  exact ⟨m, hQ, (Option.some.inj hr).symm, ha, hc, hde⟩

theorem bsStep_rec (up : Bool) (P : α → Prop) (s : BS α) (hs : BSRec O t bg thr c h P s) :
    BSRec O t bg thr c h (fun x => x = bsMid s ∨ P x) (bsStep O t bg thr target c h up s) := by
  rcases (bsStep_spec O t bg thr target c h up s).same_or_recorded with hS | ⟨ha, hR⟩
  · exact BSRec_same O t bg thr c h hS (fun x hx => Or.inr hx) hs
  · exact BSRec_recorded O t bg thr c h hR ha (Or.inl rfl)

/-- (ii): a target-meeting probe, once seen, stays recorded, and the recorded one is the closest of those seen -/
def BSSeen (P : α → Prop) (s : BS α) : Prop :=
  (Num.lt s.bestC target = true ∧ ∀ m, P m → Acc O t thr c h m → ¬ Meets O bg target c h m) ∨
  (∃ m, P m ∧ s.best = some (candAt O c h m) ∧ Acc O t thr c h m ∧ Meets O bg target c h m ∧
     s.bestC = kAt O bg c h m ∧ s.bestDE = dAt O t c h m ∧
     ∀ m', P m' → Acc O t thr c h m' → Meets O bg target c h m' →
       Num.le s.bestDE (dAt O t c h m') = true)

/-- (iii): below the target the recorded contrast is the largest seen in tolerance -/
def BSMax (P : α → Prop) (s : BS α) : Prop :=
  (s.best = none → s.bestC = (0.0 : α)) ∧
  ∀ m, P m → Acc O t thr c h m →
    Num.le (kAt O bg c h m) s.bestC = true ∨ Num.ge s.bestC target = true

section lawful
variable [LawfulNumOrd α]

theorem bsStep_seen (up : Bool) (P : α → Prop) (s : BS α) (hs : BSSeen O t bg thr target c h P s) :
    BSSeen O t bg thr target c h (fun x => x = bsMid s ∨ P x) (bsStep O t bg thr target c h up s) := by
  rcases hs with ⟨hlt, hno⟩ | ⟨m0, hP0, hb0, hA0, hT0, hc0, hd0, hmin⟩
  · have same : ¬ (Acc O t thr c h (bsMid s) ∧ Meets O bg target c h (bsMid s)) →
        SameRec s (bsStep O t bg thr target c h up s) →
        BSSeen O t bg thr target c h (fun x => x = bsMid s ∨ P x) (bsStep O t bg thr target c h up s) := fun hn ⟨hb, hde, hc⟩ =>
      Or.inl ⟨by rw [hc]; exact hlt, fun m hm hA hT => by
        rcases hm with rfl | hm
        · exact hn ⟨hA, hT⟩
        · exact hno m hm hA hT⟩
    rcases (bsStep_spec O t bg thr target c h up s).record with
      ⟨hnA, hS⟩ | ⟨hA, hT, _, hb, hde, hc⟩ | ⟨hA, hT, hcond, hS⟩ | ⟨hA, hnT, hgt, hb, hde, hc⟩ |
      ⟨hA, hnT, _, hS⟩
    · exact same (fun h => hnA h.1) hS
    · refine Or.inr ⟨bsMid s, Or.inl rfl, hb, hA, hT, hc, hde, fun m' hm' hA' hT' => ?_⟩
      rcases hm' with rfl | hm'
      · rw [hde]; exact le_rfl' _
      · exact absurd hT' (hno m' hm' hA')
    · rw [hlt] at hcond; simp at hcond
    · refine Or.inl ⟨?_, fun m hm hA' hT' => ?_⟩
      · rw [hc]
        exact (LawfulNumOrd.lt_iff _ _).2 (Bool.eq_false_iff.2 hnT)
      · rcases hm with rfl | hm
        · exact hnT hT'
        · exact hno m hm hA' hT'
    · exact same (fun h => hnT h.2) hS
  · have hge : Num.le target s.bestC = true := by rw [hc0]; exact hT0
    have same : (Acc O t thr c h (bsMid s) → Meets O bg target c h (bsMid s) →
          Num.le s.bestDE (dAt O t c h (bsMid s)) = true) →
        SameRec s (bsStep O t bg thr target c h up s) →
        BSSeen O t bg thr target c h (fun x => x = bsMid s ∨ P x) (bsStep O t bg thr target c h up s) := fun hn ⟨hb, hde, hc⟩ =>
      Or.inr ⟨m0, Or.inr hP0, by rw [hb]; exact hb0, hA0, hT0, by rw [hc]; exact hc0,
        by rw [hde]; exact hd0, fun m' hm' hA' hT' => by
          rw [hde]
          rcases hm' with rfl | hm'
          · exact hn hA' hT'
          · exact hmin m' hm' hA' hT'⟩
    rcases (bsStep_spec O t bg thr target c h up s).record with
      ⟨hnA, hS⟩ | ⟨hA, hT, hcond, hb, hde, hc⟩ | ⟨hA, hT, hcond, hS⟩ | ⟨hA, hnT, hgt, hb, hde, hc⟩ |
      ⟨hA, hnT, _, hS⟩
    · exact same (fun h => absurd h hnA) hS
    · have hlt : Num.lt (dAt O t c h (bsMid s)) s.bestDE = true := by
        rw [not_lt_of_le hge] at hcond; simpa using hcond
      refine Or.inr ⟨bsMid s, Or.inl rfl, hb, hA, hT, hc, hde, fun m' hm' hA' hT' => ?_⟩
      rw [hde]
      rcases hm' with rfl | hm'
      · exact le_rfl' _
      · exact le_trans' (le_of_lt hlt) (hmin m' hm' hA' hT')
    · refine same (fun _ _ => ?_) hS
      simp only [Bool.or_eq_false_iff] at hcond
      exact le_of_not_lt hcond.2
    · exact absurd (le_trans' hge (le_of_lt hgt)) hnT
    · exact same (fun _ h => absurd h hnT) hS

theorem bsStep_max (up : Bool) (P : α → Prop) (s : BS α) (hs : BSMax O t bg thr target c h P s) :
    BSMax O t bg thr target c h (fun x => x = bsMid s ∨ P x) (bsStep O t bg thr target c h up s) := by
  obtain ⟨hnone, hmax⟩ := hs
  have same : (Acc O t thr c h (bsMid s) →
        Num.le (kAt O bg c h (bsMid s)) s.bestC = true ∨ Num.ge s.bestC target = true) →
      SameRec s (bsStep O t bg thr target c h up s) →
      BSMax O t bg thr target c h (fun x => x = bsMid s ∨ P x) (bsStep O t bg thr target c h up s) := fun hn ⟨hb, hde, hc⟩ =>
    ⟨fun h0 => by rw [hc]; exact hnone (by rw [← hb]; exact h0), fun m hm hA => by
      rw [hc]
      rcases hm with rfl | hm
      · exact hn hA
      · exact hmax m hm hA⟩
  rcases (bsStep_spec O t bg thr target c h up s).record with
    ⟨hnA, hS⟩ | ⟨hA, hT, _, hb, hde, hc⟩ | ⟨hA, hT, hcond, hS⟩ | ⟨hA, hnT, hgt, hb, hde, hc⟩ |
    ⟨hA, hnT, hgt, hS⟩
  · exact same (fun h => absurd h hnA) hS
  · exact ⟨fun h0 => (by rw [hb] at h0; cases h0), fun m _ _ => Or.inr (by rw [hc]; exact hT)⟩
  · refine same (fun _ => Or.inr ?_) hS
    simp only [Bool.or_eq_false_iff] at hcond
    exact le_of_not_lt hcond.1
  · refine ⟨fun h0 => (by rw [hb] at h0; cases h0), fun m hm hA' => ?_⟩
    rw [hc]
    rcases hm with rfl | hm
    · exact Or.inl (le_rfl' _)
    · rcases hmax m hm hA' with h1 | h1
      · exact Or.inl (le_trans' h1 (le_of_lt hgt))
      · exact Or.inr (le_trans' h1 (le_of_lt hgt))
  · exact same (fun _ => Or.inl (le_of_not_lt hgt)) hS

end lawful

structure BSInvC (P : α → Prop) (s : BS α) : Prop where
  recorded : BSRec O t bg thr c h P s
  seen : BSSeen O t bg thr target c h P s
  max : BSMax O t bg thr target c h P s

end line

section call
variable (O : Leaf α) (t bg : RGB) (thr target : α)

/-- the text's chroma, hue, the search direction and the initial state, as `binarySearch` computes them -/
def bsC : α := (O.toOklch t).2.1
def bsH : α := (O.toOklch t).2.2
def bsUp : Bool := searchUp (O.toOklch t).1 (O.toOklch bg).1
def bsStart : BS α := bsInit O (O.toOklch t).1 (bsUp O t bg)

/-- the 20 lightnesses probed by `binarySearch O t bg thr target`, in order -/
def bsProbes : List α :=
  (bsLoopTrace O t bg thr target (bsC O t) (bsH O t) (bsUp O t bg) 20 (bsStart O t bg)).2

theorem bsProbes_length : (bsProbes O t bg thr target).length = 20 :=
  bsLoopTrace_length O t bg thr target _ _ _ 20 _

/-- the state the call's loop ends in -/
def bsFinal : BS α := bsLoop O t bg thr target (bsC O t) (bsH O t) (bsUp O t bg) 20 (bsStart O t bg)

/-- the tuple patterns of `binarySearch` are the projections in `bsC`, `bsH`, `bsUp` -/
theorem binarySearch_eq_bsFinal : binarySearch O t bg thr target = (bsFinal O t bg thr target).best := rfl

/-- invariant (i) at the end of the call, over exactly the probed lightnesses -/
theorem binarySearch_rec :
    BSRec O t bg thr (bsC O t) (bsH O t) (fun x => x ∈ bsProbes O t bg thr target) (bsFinal O t bg thr target) := by
  -- the step lemma of (i) along the 20 iterations, from nothing probed and nothing recorded
  simpa only [or_false, bsProbes, bsFinal] using bsLoop_induct O t bg thr target _ _ _ (Inv := BSRec O t bg thr _ _)
    (hstep := fun P s => bsStep_rec O t bg thr target _ _ _ P s) (n := 20) (P := fun _ => False) (s := bsStart O t bg)
    (hs := fun _ hr => nomatch hr)

theorem binarySearch_inTol (r : RGB) (h : binarySearch O t bg thr target = some r) : InTol O t thr r := by
  rw [binarySearch_eq_bsFinal] at h
  obtain ⟨m, _, rfl, hA, _⟩ := binarySearch_rec O t bg thr target r h
  exact (Acc_iff_inTol O t thr _ _ m).1 hA

end call

section bracket
variable [LawfulNumOrd α] (O : Leaf α) (t bg : RGB) (thr target c h : α)

/-- `y` is at least as far from the text as `x` on the searched side -/
def leAway (up : Bool) (x y : α) : Prop :=
  if up then Num.le x y = true else Num.le y x = true

def Brackets (s : BS α) (L : α) : Prop := Num.le s.low L = true ∧ Num.le L s.high = true

/-- a lightness in the band at level `v`: in tolerance, with contrast at least `v` -/
def Hit (v : α) (m : α) : Prop := Acc O t thr c h m ∧ Num.ge (kAt O bg c h m) v = true

/-- `Mono` + `DirOK` on a set `I` of lightnesses: being in tolerance is inherited towards the text,
    and contrast does not decrease away from it -/
structure MonoOn (up : Bool) (I : α → Prop) : Prop where
  acc_towards : ∀ x y, I x → I y → leAway up x y → Acc O t thr c h y → Acc O t thr c h x
  k_away : ∀ x y, I x → I y → leAway up x y →
    Num.le (kAt O bg c h x) (kAt O bg c h y) = true

theorem leAway_of_not (up : Bool) {x y : α} (hn : ¬ leAway up x y) : leAway up y x := by
  cases up
  · exact (LawfulNumOrd.le_total x y).resolve_right hn
  · exact (LawfulNumOrd.le_total y x).resolve_right hn

theorem miss_brackets_step (up : Bool) (I : α → Prop) (hmono : MonoOn O t bg thr c h up I)
    (v : α) (hv : Num.le v target = true) (s : BS α) (L : α) (hI : I L) (hL : Hit O t bg thr c h v L)
    (hIm : I (bsMid s)) (hb : Brackets s L) (hmiss : ¬ Hit O t bg thr c h v (bsMid s)) :
    Brackets (bsStep O t bg thr target c h up s) L := by
  obtain ⟨hlo, hhi⟩ := hb
  have step := bsStep_spec O t bg thr target c h up s
  by_cases hA : Acc O t thr c h (bsMid s)
  · have hk : ¬ Num.ge (kAt O bg c h (bsMid s)) v = true := fun hk => hmiss ⟨hA, hk⟩
    have hnT : ¬ Meets O bg target c h (bsMid s) := fun hT => hk (le_trans' hv hT)
    obtain ⟨e1, e2⟩ := step.away ⟨hA, hnT⟩
    -- the probe moves the near end; `L` is beyond it: on the text's side its contrast would be too small
    have hfar : leAway up (bsMid s) L := leAway_of_not up fun hle =>
      hk (le_trans' hL.2 (hmono.k_away L (bsMid s) hI hIm hle))
    unfold Brackets; rw [e1, e2]
    cases up
    · exact ⟨hlo, hfar⟩
    · exact ⟨hfar, hhi⟩
  · obtain ⟨e1, e2⟩ := step.towards (fun hh => hA hh.1)
    -- the probe moves the far end; `L` is on the text's side of it: beyond it the probe would be in tolerance
    have hnear : leAway up L (bsMid s) := leAway_of_not up fun hle =>
      hA (hmono.acc_towards (bsMid s) L hIm hI hle hL.1)
    unfold Brackets; rw [e1, e2]
    cases up
    · exact ⟨hnear, hhi⟩
    · exact ⟨hlo, hnear⟩

/-- as long as every probe misses the band, every point of the band inside the interval at the start stays inside it -/
theorem miss_brackets_band (up : Bool) (I : α → Prop) (hmono : MonoOn O t bg thr c h up I)
    (v : α) (hv : Num.le v target = true) (L : α) (hI : I L) (hL : Hit O t bg thr c h v L)
    (n : Nat) (s : BS α)
    (hIm : ∀ m ∈ (bsLoopTrace O t bg thr target c h up n s).2, I m)
    (hmiss : ∀ m ∈ (bsLoopTrace O t bg thr target c h up n s).2, ¬ Hit O t bg thr c h v m)
    (hb : Brackets s L) :
    Brackets (bsLoop O t bg thr target c h up n s) L := by
  induction n generalizing s with
  | zero => exact hb
  | succ n ih =>
    simp only [bsLoopTrace, List.mem_cons] at hIm hmiss
    simp only [bsLoop]
    exact ih _ (fun m hm => hIm m (Or.inr hm)) (fun m hm => hmiss m (Or.inr hm))
      (miss_brackets_step O t bg thr target c h up I hmono v hv s L hI hL (hIm _ (Or.inl rfl)) hb
        (hmiss _ (Or.inl rfl)))

end bracket

theorem earlyTerm_error {minC thr last : α} {s : GS α} {r : RGB} (h : earlyTerm minC thr last s = .error r) :
    s.best = some r ∧ Num.ge s.bestC minC = true := by
  unfold earlyTerm at h
  grind

theorem earlyTerm_ok {minC thr last : α} {s s' : GS α} (h : earlyTerm minC thr last s = .ok s') : s' = s := by
  unfold earlyTerm at h
  grind

theorem earlyTerm_fires {minC thr last : α} {s : GS α} {b : RGB} (hb : s.best = some b)
    (hC : Num.ge s.bestC minC = true) (h1 : Num.le thr (2.5 : α) = true)
    (h2 : Num.le last (5.0 : α) = true) : earlyTerm minC thr last s = .error b := by
  unfold earlyTerm
  simp [hb, hC, h1, h2]

section gen
variable (O : Leaf α) (d : Descend α) (t bg : RGB) (target minC last : α)

/-- `b` is what one of the two phases returns at tolerance `thr` (this does not depend on the
    loop state) -/
def PhaseRes (thr : α) (b : RGB) : Prop :=
  binarySearch O t bg thr target = some b ∨ gradientDescent O d t bg thr target = some b

/-- the recorded contrast is that of the recorded colour, or the text's own when nothing is recorded -/
def GMax (s : GS α) : Prop :=
  (∀ b, s.best = some b → s.bestC = O.contrast b bg) ∧ (s.best = none → s.bestC = O.contrast t bg)

variable {O t bg target} in
theorem absorb_error {tie : Bool} {cand : Option RGB} {s : GS α} {r : RGB}
    (h : absorb O t bg target tie cand s = .error r) :
    cand = some r ∧ Num.ge (O.contrast r bg) target = true := by
  unfold absorb at h
  grind

variable {O t bg target} in
theorem absorb_best {tie : Bool} {cand : Option RGB} {s s' : GS α}
    (h : absorb O t bg target tie cand s = .ok s') :
    s'.best = s.best ∨ ∃ b, cand = some b ∧ s'.best = some b := by
  unfold absorb at h
  grind

/-- the two phases of one schedule entry; unlike the early return that follows them, they do not look
    at the minimum -/
def genPhases (thr : α) (s : GS α) : Except RGB (GS α) :=
  absorb O t bg target false (binarySearch O t bg thr target) s >>=
    absorb O t bg target true (gradientDescent O d t bg thr target)

theorem genStep_eq (thr : α) (s : GS α) :
    genStep O d t bg target minC last thr s =
      genPhases O d t bg target thr s >>= earlyTerm minC thr last := by
  unfold genStep genPhases
  cases absorb O t bg target false (binarySearch O t bg thr target) s <;> rfl

theorem genPhases_origin (thr : α) (s : GS α) :
    StageSpec (PhaseRes O d t bg target thr)
      (fun s2 => s2.best = s.best ∨ ∃ b, PhaseRes O d t bg target thr b ∧ s2.best = some b)
      (genPhases O d t bg target thr s) := by
  unfold genPhases
  refine StageSpec.bind (Q := fun s1 => s1.best = s.best ∨
      ∃ b, binarySearch O t bg thr target = some b ∧ s1.best = some b)
    ⟨fun r h => Or.inl (absorb_error h).1,
     fun s1 h => absorb_best h⟩ fun s1 h1 =>
    ⟨fun r h => Or.inr (absorb_error h).1, fun s2 h => ?_⟩
  rcases absorb_best h with e | ⟨b, hb, e⟩
  · rcases h1 with e1 | ⟨b, hb, e1⟩
    · exact Or.inl (e.trans e1)
    · exact Or.inr ⟨b, Or.inl hb, e.trans e1⟩
  · exact Or.inr ⟨b, Or.inr hb, e⟩

theorem genStep_origin (thr : α) (s : GS α) :
    StageSpec (fun r => s.best = some r ∨ PhaseRes O d t bg target thr r)
      (fun s' => s'.best = s.best ∨ ∃ b, PhaseRes O d t bg target thr b ∧ s'.best = some b)
      (genStep O d t bg target minC last thr s) := by
  rw [genStep_eq]
  have hp := genPhases_origin O d t bg target thr s
  refine StageSpec.bind ⟨fun r h => Or.inr (hp.1 r h), hp.2⟩ fun s2 h2 => ⟨fun r h => ?_, fun s' h => ?_⟩
  · -- the early return is on what the phases left recorded
    have hb := (earlyTerm_error h).1
    rcases h2 with e | ⟨b, hb', e⟩
    · exact Or.inl (e ▸ hb)
    · rw [e] at hb; cases hb; exact Or.inr hb'
  · rw [earlyTerm_ok h]; exact h2

theorem genAccessible_of_ge (sched : List α) (hc : Num.ge (O.contrast t bg) target = true) :
    genAccessible O d t bg target minC sched = t := by
  unfold genAccessible; exact if_pos hc

theorem genAccessible_of_not_ge (sched : List α) (hc : ¬ Num.ge (O.contrast t bg) target = true) :
    genAccessible O d t bg target minC sched =
      genLoop O d t bg target minC (sched.getLastD (0.0 : α)) sched { best := none, bestC := O.contrast t bg, bestDE := O.inf } := by
  unfold genAccessible; exact if_neg hc

/-- where the returned colour comes from: the state the loop started from, the text, or a phase result at a remaining entry -/
theorem genLoop_origin (rest : List α) (s : GS α) :
    s.best = some (genLoop O d t bg target minC last rest s) ∨
    (s.best = none ∧ genLoop O d t bg target minC last rest s = t) ∨
    ∃ thr ∈ rest, PhaseRes O d t bg target thr (genLoop O d t bg target minC last rest s) := by
  induction rest generalizing s with
  | nil => unfold genLoop; cases hb : s.best <;> simp
  | cons thr rest ih =>
    have hst := genStep_origin O d t bg target minC last thr s
    have here : ∀ r, PhaseRes O d t bg target thr r → ∃ x ∈ thr :: rest, PhaseRes O d t bg target x r :=
      fun r h => ⟨thr, List.mem_cons_self, h⟩
    unfold genLoop
    cases hx : genStep O d t bg target minC last thr s with
    | error r => exact (hst.1 r hx).imp_right fun h => Or.inr (here r h)
    | ok s' =>
      -- the loop goes on from a state whose record is the old one or a phase result of this entry
      simp only
      rcases ih s' with h | ⟨hn, h⟩ | ⟨x, hm, h⟩
      · rcases hst.2 s' hx with e | ⟨b, hb, e⟩
        · exact Or.inl (e ▸ h)
        · rw [e] at h; cases h; exact Or.inr (Or.inr (here _ hb))
      · rcases hst.2 s' hx with e | ⟨b, _, e⟩
        · exact Or.inr (Or.inl ⟨e ▸ hn, h⟩)
        · rw [e] at hn; cases hn
      · exact Or.inr (Or.inr ⟨x, List.mem_cons_of_mem _ hm, h⟩)

theorem genLoop_origin_init (rest : List α) (x : α) :
    genLoop O d t bg target minC last rest { best := none, bestC := O.contrast t bg, bestDE := x } = t ∨
    ∃ thr ∈ rest, PhaseRes O d t bg target thr
      (genLoop O d t bg target minC last rest { best := none, bestC := O.contrast t bg, bestDE := x }) := by
  rcases genLoop_origin O d t bg target minC last rest
      { best := none, bestC := O.contrast t bg, bestDE := x } with h | ⟨_, h⟩ | h
  · cases h
  · exact Or.inl h
  · exact Or.inr h

theorem genAccessible_origin (sched : List α) :
    genAccessible O d t bg target minC sched = t ∨
    ∃ thr ∈ sched, PhaseRes O d t bg target thr (genAccessible O d t bg target minC sched) := by
  simp only [genAccessible]
  split
  · exact Or.inl rfl
  · exact genLoop_origin_init O d t bg target minC _ sched _

omit [Num α] in
theorem GMax.init (x : α) : GMax O t bg { best := none, bestC := O.contrast t bg, bestDE := x } :=
  ⟨fun _ hb => (by cases hb), fun _ => rfl⟩

variable [LawfulNumOrd α]

variable {O t bg target} in
theorem absorb_ok {tie : Bool} {cand : Option RGB} {s s' : GS α} (hs : GMax O t bg s)
    (h : absorb O t bg target tie cand s = .ok s') :
    GMax O t bg s' ∧ Num.le s.bestC s'.bestC = true ∧
      ∀ b, cand = some b → Num.le (O.contrast b bg) s'.bestC = true := by
  unfold absorb at h
  cases cand with
  | none => cases h; exact ⟨hs, le_rfl' _, fun b hb => by cases hb⟩
  | some b =>
    simp only at h
    by_cases hret : Num.ge (O.contrast b bg) target = true
    · rw [if_pos hret] at h; cases h
    · rw [if_neg hret] at h
      by_cases hupd : (Num.gt (O.contrast b bg) s.bestC ||
          (tie && Num.eq (O.contrast b bg) s.bestC && Num.lt (O.deltaE t b) s.bestDE)) = true
      · rw [if_pos hupd] at h
        cases h
        refine ⟨⟨fun b' hb' => by cases hb'; rfl, fun h0 => by cases h0⟩, ?_,
          fun b' hb' => by cases hb'; exact le_rfl' _⟩
        simp only [Bool.or_eq_true, Bool.and_eq_true, Num.gt, Num.eq] at hupd
        rcases hupd with h1 | ⟨⟨_, _, h3⟩, _⟩
        · exact le_of_lt h1
        · exact h3  -- the tie clause: `Num.eq` is `≤` both ways, this is the half needed
      · rw [if_neg hupd] at h
        cases h
        refine ⟨hs, le_rfl' _, fun b' hb' => ?_⟩
        cases hb'
        simp only [Bool.or_eq_true, not_or, Num.gt] at hupd
        exact le_of_not_lt (by simpa using hupd.1)

theorem genPhases_spec (thr : α) (s : GS α) (hs : GMax O t bg s) :
    StageSpec (fun r => PhaseRes O d t bg target thr r ∧ Num.ge (O.contrast r bg) target = true)
      (fun s2 => GMax O t bg s2 ∧ Num.le s.bestC s2.bestC = true ∧
        ∀ b, PhaseRes O d t bg target thr b → Num.le (O.contrast b bg) s2.bestC = true)
      (genPhases O d t bg target thr s) := by
  unfold genPhases
  refine StageSpec.bind (Q := fun s1 => GMax O t bg s1 ∧ Num.le s.bestC s1.bestC = true ∧
      ∀ b, binarySearch O t bg thr target = some b → Num.le (O.contrast b bg) s1.bestC = true)
    ⟨fun r h => ?_, fun s1 h => absorb_ok hs h⟩ fun s1 ⟨g1, l1, p1⟩ =>
    ⟨fun r h => ?_, fun s2 h => ?_⟩
  · obtain ⟨e, hk⟩ := absorb_error h; exact ⟨Or.inl e, hk⟩
  · obtain ⟨e, hk⟩ := absorb_error h; exact ⟨Or.inr e, hk⟩
  · obtain ⟨g2, l2, p2⟩ := absorb_ok g1 h
    exact ⟨g2, le_trans' l1 l2, fun b hb => hb.elim (fun hb => le_trans' (p1 b hb) l2) (p2 b)⟩

theorem genStep_spec (thr : α) (s : GS α) (hs : GMax O t bg s) :
    StageSpec
      (fun r => Num.ge (O.contrast r bg) target = true ∨
        (Num.ge (O.contrast r bg) minC = true ∧ Num.le s.bestC (O.contrast r bg) = true ∧
          ∀ b, PhaseRes O d t bg target thr b → Num.le (O.contrast b bg) (O.contrast r bg) = true))
      (fun s' => GMax O t bg s' ∧ Num.le s.bestC s'.bestC = true ∧
        ∀ b, PhaseRes O d t bg target thr b → Num.le (O.contrast b bg) s'.bestC = true)
      (genStep O d t bg target minC last thr s) := by
  rw [genStep_eq]
  have hp := genPhases_spec O d t bg target thr s hs
  refine StageSpec.bind ⟨fun r h => Or.inl (hp.1 r h).2, hp.2⟩ fun s2 ⟨g2, l2, p2⟩ =>
    ⟨fun r h => Or.inr ?_, fun s' h => ?_⟩
  · -- the early return is on the recorded colour, whose contrast is the recorded one
    obtain ⟨hb, hC⟩ := earlyTerm_error h
    rw [g2.1 r hb] at hC l2 p2
    exact ⟨hC, l2, p2⟩
  · rw [earlyTerm_ok h]; exact ⟨g2, l2, p2⟩

/-- the result meets the target, or the loop processed a prefix `pre` of the remaining entries and stopped there (schedule
    exhausted, or early return on a colour meeting the minimum), and its contrast dominates the starting record and every phase
    result of `pre` -/
theorem genLoop_spec (rest : List α) (s : GS α) (hs : GMax O t bg s) :
    let k := O.contrast (genLoop O d t bg target minC last rest s) bg
    Num.ge k target = true ∨
    ∃ pre post, rest = pre ++ post ∧ (post = [] ∨ Num.ge k minC = true) ∧ Num.le s.bestC k = true ∧
      ∀ thr ∈ pre, ∀ b, PhaseRes O d t bg target thr b → Num.le (O.contrast b bg) k = true := by
  induction rest generalizing s with
  | nil =>
    refine Or.inr ⟨[], [], rfl, Or.inl rfl, ?_, fun thr hthr => by cases hthr⟩
    unfold genLoop
    cases hb : s.best with
    | none => simp only; rw [hs.2 hb]; exact le_rfl' _
    | some b => simp only; rw [hs.1 b hb]; exact le_rfl' _
  | cons thr rest ih =>
    have hst := genStep_spec O d t bg target minC last thr s hs
    unfold genLoop
    cases hx : genStep O d t bg target minC last thr s with
    | error r =>
      simp only
      rcases hst.1 r hx with h | ⟨h1, h2, h3⟩
      · exact Or.inl h
      · refine Or.inr ⟨[thr], rest, rfl, Or.inr h1, h2, fun thr' hthr' b hb => ?_⟩
        simp only [List.mem_singleton] at hthr'
        subst hthr'
        exact h3 b hb
    | ok s' =>
      simp only
      obtain ⟨g', l', p'⟩ := hst.2 s' hx
      rcases ih s' g' with h | ⟨pre, post, e, h1, h2, h3⟩
      · exact Or.inl h
      · refine Or.inr ⟨thr :: pre, post, by rw [e]; rfl, h1, le_trans' l' h2, fun thr' hthr' b hb => ?_⟩
        simp only [List.mem_cons] at hthr'
        rcases hthr' with rfl | hthr'
        · exact le_trans' (p' b hb) h2
        · exact h3 thr' hthr' b hb

theorem genLoop_ge_of_state (hmt : Num.le minC target = true) (rest : List α) (s : GS α)
    (hs : GMax O t bg s) (hC : Num.ge s.bestC minC = true) :
    Num.ge (O.contrast (genLoop O d t bg target minC last rest s) bg) minC = true := by
  rcases genLoop_spec O d t bg target minC last rest s hs with h | ⟨_, _, _, _, h2, _⟩
  · exact le_trans' hmt h
  · exact le_trans' hC h2

/-- with the text below the minimum, an entry `thr ≤ 2.5` (schedule ending `≤ 5.0`) at which some phase result meets the minimum
    does not let the loop go on: after its phases the record meets the minimum, so the early return fires -/
theorem genStep_must_return (hcur : Num.ge (O.contrast t bg) minC = false)
    (thr : α) (h1 : Num.le thr (2.5 : α) = true) (h2 : Num.le last (5.0 : α) = true)
    (b : RGB) (hb : PhaseRes O d t bg target thr b) (hk : Num.ge (O.contrast b bg) minC = true)
    (s s' : GS α) (hs : GMax O t bg s) :
    genStep O d t bg target minC last thr s ≠ .ok s' := by
  rw [genStep_eq]
  intro hx
  cases hp : genPhases O d t bg target thr s with
  | error r => rw [hp] at hx; cases hx
  | ok s2 =>
    rw [hp] at hx
    obtain ⟨g2, _, p2⟩ := (genPhases_spec O d t bg target thr s hs).2 s2 hp
    have hC : Num.ge s2.bestC minC = true := le_trans' hk (p2 b hb)
    cases hb2 : s2.best with
    | none => rw [g2.2 hb2, hcur] at hC; cases hC
    | some b' =>
      rw [show (Except.ok s2 >>= earlyTerm minC thr last) = earlyTerm minC thr last s2 from rfl,
        earlyTerm_fires hb2 hC h1 h2] at hx
      cases hx

/-- such an entry cuts the schedule: what follows it is never read -/
theorem genLoop_cut (hcur : Num.ge (O.contrast t bg) minC = false) (pre : List α) (thr : α) (post : List α)
    (h1 : Num.le thr (2.5 : α) = true) (h2 : Num.le last (5.0 : α) = true)
    (b : RGB) (hb : PhaseRes O d t bg target thr b) (hk : Num.ge (O.contrast b bg) minC = true)
    (s : GS α) (hs : GMax O t bg s) :
    genLoop O d t bg target minC last (pre ++ thr :: post) s =
      genLoop O d t bg target minC last (pre ++ [thr]) s := by
  induction pre generalizing s with
  | nil =>
    simp only [List.nil_append, genLoop]
    cases hx : genStep O d t bg target minC last thr s with
    | error r => rfl
    | ok s' => exact absurd hx (genStep_must_return O d t bg target minC last hcur thr h1 h2 b hb hk s s' hs)
  | cons p pre ih =>
    simp only [List.cons_append, genLoop]
    cases hx : genStep O d t bg target minC last p s with
    | error r => rfl
    | ok s' => exact ih s' ((genStep_spec O d t bg target minC last p s hs).2 s' hx).1

theorem phaseRes_inTol (thr : α) (b : RGB) (h : PhaseRes O d t bg target thr b) : InTol O t thr b :=
  h.elim (binarySearch_inTol O t bg thr target b) (gradient_inTol O d t bg thr target b)

theorem genAccessible_within (sched : List α) : Within O t sched (genAccessible O d t bg target minC sched) :=
  (genAccessible_origin O d t bg target minC sched).imp_right fun ⟨thr, hm, h⟩ =>
    ⟨thr, hm, phaseRes_inTol O d t bg target thr _ h⟩

end gen

end Cm
