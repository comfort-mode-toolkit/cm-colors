import CmModel.Parser
import CmModel.CssSpec
import CmGen.NamedColors
import Mathlib.Data.List.DropRight
import Mathlib.Data.List.TakeWhile
/-!
# String-level facts about the parser model (no numbers involved)

`AsciiFaithful cls`: the Unicode oracle agrees with the ASCII one on code points `< 128` (true of CPython's
database; `asciiCls` is the driver's default). `Str.strip` / `Str.lower` only look at the characters of their
argument, so on ASCII-only text every faithful oracle computes what `asciiCls` computes.
-/
namespace Cm.ParseSpec
open Cm Cm.Parse

structure AsciiFaithful (cls : CharCls) : Prop where
  isSpace : ∀ c : Char, c.toNat < 128 → cls.isSpace c = asciiIsSpace c
  digit : ∀ c : Char, c.toNat < 128 → cls.digit c = asciiDigit c
  lower : ∀ c : Char, c.toNat < 128 → cls.lower c = asciiLower c

theorem asciiFaithful_ascii : AsciiFaithful asciiCls :=
  ⟨fun _ _ => rfl, fun _ _ => rfl, fun _ _ => rfl⟩

def IsAscii (s : Str) : Prop := ∀ c ∈ s, c.toNat < 128

def isAsciiB (s : Str) : Bool := s.all fun c => decide (c.toNat < 128)

theorem isAscii_of_B {s : Str} (h : isAsciiB s = true) : IsAscii s := by
  intro c hc
  have := (List.all_eq_true.1 h) c hc
  simpa using this

theorem dropWhile_congr {α : Type} {p q : α → Bool} :
    ∀ {l : List α}, (∀ x ∈ l, p x = q x) → l.dropWhile p = l.dropWhile q
  | [], _ => rfl
  | x :: xs, h => by
    have hx : p x = q x := h x (List.mem_cons_self)
    have ih := dropWhile_congr (p := p) (q := q) (l := xs) fun y hy => h y (List.mem_cons_of_mem _ hy)
    simp only [List.dropWhile_cons, hx, ih]

theorem strip_faithful {cls : CharCls} (hf : AsciiFaithful cls) {s : Str} (hs : IsAscii s) :
    Str.strip cls s = Str.strip asciiCls s := by
  unfold Str.strip
  have h1 : s.dropWhile cls.isSpace = s.dropWhile asciiCls.isSpace :=
    dropWhile_congr fun x hx => hf.isSpace x (hs x hx)
  rw [h1]
  congr 1
  apply dropWhile_congr
  intro x hx
  apply hf.isSpace x
  apply hs x
  exact List.dropWhile_subset _ (List.mem_reverse.1 hx)

theorem lower_faithful {cls : CharCls} (hf : AsciiFaithful cls) {s : Str} (hs : IsAscii s) :
    Str.lower cls s = Str.lower asciiCls s := by
  unfold Str.lower
  exact List.flatMap_congr fun x hx => hf.lower x (hs x hx)

theorem strip_eq_rdropWhile (cls : CharCls) (s : Str) :
    Str.strip cls s = (s.dropWhile cls.isSpace).rdropWhile cls.isSpace := rfl

/-- `rdropWhile` leaves a prefix, which keeps the first element -/
theorem dropWhile_rdropWhile_of_fixed {α : Type} (p : α → Bool) (t : List α)
    (ht : t.dropWhile p = t) : (t.rdropWhile p).dropWhile p = t.rdropWhile p := by
  rw [List.dropWhile_eq_self_iff] at ht ⊢
  intro hl
  have hpre : t.rdropWhile p <+: t := List.rdropWhile_prefix p t
  have hlt : 0 < t.length := lt_of_lt_of_le hl hpre.length_le
  have := ht hlt
  rwa [hpre.getElem hl]

theorem strip_idem (cls : CharCls) (s : Str) : Str.strip cls (Str.strip cls s) = Str.strip cls s := by
  rw [strip_eq_rdropWhile, strip_eq_rdropWhile]
  rw [dropWhile_rdropWhile_of_fixed _ _ (List.dropWhile_idempotent _ _), List.rdropWhile_idempotent]

theorem rdropWhile_append_of_pos {α : Type} (p : α → Bool) (l w : List α) (hw : ∀ x ∈ w, p x = true) :
    (l ++ w).rdropWhile p = l.rdropWhile p := by
  unfold List.rdropWhile
  rw [List.reverse_append, List.dropWhile_append_of_pos]
  intro a ha
  exact hw a (List.mem_reverse.1 ha)

theorem dropWhile_append_of_fixed {α : Type} {p : α → Bool} {X : List α} (hX : X.dropWhile p = X)
    (j : List α) : (j ++ X).dropWhile p = j.dropWhile p ++ X := by
  rw [List.dropWhile_append]
  split
  · next h => rw [List.isEmpty_iff.1 h, hX, List.nil_append]
  · rfl

theorem rdropWhile_append_of_fixed {α : Type} {p : α → Bool} {X : List α} (hX : X.rdropWhile p = X)
    (j : List α) : (X ++ j).rdropWhile p = X ++ j.rdropWhile p := by
  have hX' : X.reverse.dropWhile p = X.reverse := by
    rw [← List.reverse_eq_iff]; exact hX
  unfold List.rdropWhile
  rw [List.reverse_append, dropWhile_append_of_fixed hX', List.reverse_append, List.reverse_reverse]

theorem strip_ws_append (cls : CharCls) (w1 s w2 : Str)
    (h1 : ∀ c ∈ w1, cls.isSpace c = true) (h2 : ∀ c ∈ w2, cls.isSpace c = true) :
    Str.strip cls (w1 ++ s ++ w2) = Str.strip cls s := by
  rw [strip_eq_rdropWhile, strip_eq_rdropWhile, List.append_assoc, List.dropWhile_append_of_pos h1]
  by_cases hall : ∀ x ∈ s, cls.isSpace x = true
  · rw [List.dropWhile_append_of_pos hall, List.dropWhile_eq_nil_iff.2 hall,
      List.dropWhile_eq_nil_iff.2 h2]
  · have : (s ++ w2).dropWhile cls.isSpace = s.dropWhile cls.isSpace ++ w2 := by
      rw [List.dropWhile_append]
      rw [if_neg]
      intro hnil
      exact hall (List.dropWhile_eq_nil_iff.1 (by simpa using hnil))
    rw [this, rdropWhile_append_of_pos _ _ _ h2]

/-- ASCII characters by enumeration: what the proofs need of the characters of a class (hex digits, digits,
    lower-case letters) is written as one Boolean, checked for the 128 characters by the kernel (`…Ok_all`)
    and unpacked into a structure of propositions (`hexCharFacts`, `digFacts`, `letterFacts`) -/
theorem forall_ascii_of_range {p : Char → Bool}
    (h : (List.range 128).all (fun n => p (Char.ofNat n)) = true) :
    ∀ c : Char, c.toNat < 128 → p c = true := by
  intro c hc
  have := (List.all_eq_true.1 h) c.toNat (List.mem_range.2 hc)
  rwa [Char.ofNat_toNat] at this

/-- (`h` is closed by `decide` for a literal `l`) -/
theorem mem_of_range (l : Str) (lo n : Nat) (c : Char) (h : ∀ k : Fin n, Char.ofNat (lo + k) ∈ l)
    (h1 : lo ≤ c.toNat) (h2 : c.toNat < lo + n) : c ∈ l := by
  have := h ⟨c.toNat - lo, by omega⟩
  rwa [show lo + (c.toNat - lo) = c.toNat by omega, Char.ofNat_toNat] at this

theorem toNat_le_of_le {c d : Char} (h : c ≤ d) : c.toNat ≤ d.toNat := by
  rwa [Char.le_def, UInt32.le_iff_toNat_le] at h

theorem hexDigit_lt (c : Char) (h : Str.isHexDigit c = true) : c.toNat < 128 := by
  unfold Str.isHexDigit at h
  simp only [Bool.or_eq_true, Bool.and_eq_true, decide_eq_true_eq] at h
  rcases h with (h | h) | h <;> exact lt_of_le_of_lt (toNat_le_of_le h.2) (by decide)

theorem hexVal_lt {c : Char} {n : Nat} (h : Str.hexVal c = some n) : n < 16 := by
  have e : ∀ a b : Char, a ≤ b ↔ a.toNat ≤ b.toNat := fun a b => by
    rw [Char.le_def, UInt32.le_iff_toNat_le]; rfl
  unfold Str.hexVal at h
  simp only [e, Char.reduceToNat] at h
  -- three ranges of character codes, each with its offset
  split at h
  · cases h; omega
  split at h
  · cases h; omega
  split at h
  · cases h; omega
  · cases h

/-- the value of a hex digit (0 for any other character) -/
def hv (c : Char) : Nat := (Str.hexVal c).getD 0

/-- ASCII lower-casing of one character -/
def lc (c : Char) : Char := if 'A' ≤ c ∧ c ≤ 'Z' then Char.ofNat (c.toNat + 32) else c

theorem asciiLower_eq (c : Char) : asciiLower c = [lc c] := by
  unfold asciiLower lc; split <;> rfl

def hexCharOk (c : Char) : Bool :=
  !Str.isHexDigit c ||
    (!asciiIsSpace c && c != '#' && Str.hexVal c == some (hv c) &&
      Str.isHexDigit (lc c) && hv (lc c) == hv c && lc c != '#')

theorem hexCharOk_all : (List.range 128).all (fun n => hexCharOk (Char.ofNat n)) = true := by
  decide +kernel

structure HexCharFacts (c : Char) : Prop where
  notSpace : asciiIsSpace c = false
  neHash : c ≠ '#'
  val : Str.hexVal c = some (hv c)
  lcHex : Str.isHexDigit (lc c) = true
  lcVal : hv (lc c) = hv c
  lcNeHash : lc c ≠ '#'

theorem hexCharFacts (c : Char) (h : Str.isHexDigit c = true) : HexCharFacts c := by
  have := forall_ascii_of_range hexCharOk_all c (hexDigit_lt c h)
  unfold hexCharOk at this
  rw [h] at this
  simp only [Bool.not_true, Bool.false_or, Bool.and_eq_true, Bool.not_eq_eq_eq_not, Bool.not_true,
    bne_iff_ne, ne_eq, beq_iff_eq] at this
  obtain ⟨⟨⟨⟨⟨a1, a2⟩, a3⟩, a4⟩, a5⟩, a6⟩ := this
  exact ⟨a1, a2, a3, a4, a5, a6⟩

theorem dropWhile_of_head {α : Type} {p : α → Bool} {s : List α} (hne : s ≠ [])
    (hh : p (s.head hne) = false) : s.dropWhile p = s := by
  rw [List.dropWhile_eq_self_iff]
  intro _
  rw [← List.head_eq_getElem_zero hne, hh]
  exact Bool.false_ne_true

theorem rdropWhile_of_last {α : Type} {p : α → Bool} {s : List α} (hne : s ≠ [])
    (hl : p (s.getLast hne) = false) : s.rdropWhile p = s := by
  rw [List.rdropWhile_eq_self_iff]
  intro _
  rw [hl]
  exact Bool.false_ne_true

/-- `strip` written out for a class `p` (`PyFloat.parse` strips with `isFloatSpace`, not through `Str.strip`) -/
theorem stripBy_fixed (p : Char → Bool) (s : Str) (hne : s ≠ [])
    (hh : p (s.head hne) = false) (hl : p (s.getLast hne) = false) :
    ((s.dropWhile p).reverse.dropWhile p).reverse = s := by
  show (s.dropWhile p).rdropWhile p = s
  rw [dropWhile_of_head hne hh, rdropWhile_of_last hne hl]

theorem strip_fixed_of (cls : CharCls) (s : Str) (hne : s ≠ [])
    (hh : cls.isSpace (s.head hne) = false) (hl : cls.isSpace (s.getLast hne) = false) :
    Str.strip cls s = s :=
  stripBy_fixed cls.isSpace s hne hh hl

theorem stripBy_of_forall (p : Char → Bool) {s : Str} (h : ∀ c ∈ s, p c = false) :
    ((s.dropWhile p).reverse.dropWhile p).reverse = s := by
  by_cases hne : s = []
  · subst hne; rfl
  · exact stripBy_fixed p s hne (h _ (List.head_mem hne)) (h _ (List.getLast_mem hne))

theorem strip_noSpace (cls : CharCls) {s : Str} (h : ∀ c ∈ s, cls.isSpace c = false) :
    Str.strip cls s = s :=
  stripBy_of_forall cls.isSpace h

theorem startsWith_iff (s p : Str) : Str.startsWith s p = true ↔ ∃ r, s = p ++ r := by
  unfold Str.startsWith
  rw [List.isPrefixOf_iff_prefix]
  exact ⟨fun ⟨r, h⟩ => ⟨r, h.symm⟩, fun ⟨r, h⟩ => ⟨r, h.symm⟩⟩

theorem lit_hsl : "hsl(".toList = ['h','s','l','('] := by decide
theorem lit_hsla : "hsla(".toList = ['h','s','l','a','('] := by decide
theorem lit_rgb : "rgb(".toList = ['r','g','b','('] := by decide
theorem lit_rgba : "rgba(".toList = ['r','g','b','a','('] := by decide

theorem endsWith_concat (b : Str) (c : Char) : Str.endsWith (b ++ [c]) [c] = true := by
  simp [Str.endsWith]

theorem endsWith_of_not_mem {t : Str} {c : Char} (h : c ∉ t) : Str.endsWith t [c] = false := by
  unfold Str.endsWith
  cases hr : t.reverse with
  | nil => rfl
  | cons x xs =>
    have hx : x ∈ t := List.mem_reverse.1 (hr ▸ List.mem_cons_self)
    have : c ≠ x := fun e => h (e ▸ hx)
    simp [List.isPrefixOf, this]

theorem lower_ascii_eq_map (s : Str) : Str.lower asciiCls s = s.map lc := by
  unfold Str.lower
  induction s with
  | nil => rfl
  | cons x xs ih =>
    rw [List.flatMap_cons, ih]
    show asciiLower x ++ _ = _
    rw [asciiLower_eq]; rfl

theorem lower_fixed {s : Str} (h : ∀ c ∈ s, lc c = c) : Str.lower asciiCls s = s := by
  rw [lower_ascii_eq_map]
  conv_rhs => rw [← List.map_id s]
  exact List.map_congr_left h

theorem lower_eq_map {cls : CharCls} (hf : AsciiFaithful cls) {s : Str} (hs : IsAscii s) :
    Str.lower cls s = s.map lc :=
  (lower_faithful hf hs).trans (lower_ascii_eq_map s)

/-- the parser's keyword table: `CSS_NAMED_COLORS` as generated from the Python source -/
def namedEnv : List (Str × Str) := CmGen.namedTable.map fun kv => (kv.1.toList, kv.2.toList)

/-- CSS Color 3's 147 keywords plus `rebeccapurple` -/
def specTable : List (String × (Nat × Nat × Nat)) := CssSpec.css3Keywords ++ [CssSpec.rebeccapurple]

def rgbOfNat (t : Nat × Nat × Nat) : RGB := ((t.1 : Int), (t.2.1 : Int), (t.2.2 : Int))

end Cm.ParseSpec
