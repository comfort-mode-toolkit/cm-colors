import CmProofs.CliTree
/-!
# The custom-property table points at the definitions it was collected from

`VarsInv Q st`: every entry `(--x, d)` the table `st.vars` answers with (`lookupVar`) points at a declaration named `--x` —
item `d.item` of the shared block of the top-level rule `d.rule` — and the entry and that declaration are related by `Q`.
Established by the pre-pass, preserved by every rule the tool processes, hence by every traversal (`varsInv_respected`).

`Q` is a parameter (`DefRel Q` says what it has to survive): `DefAgrees env` is the relation between table value and
declaration value the model keeps from the pre-pass on; `TightFor x` is the sharper relation that holds for `--x` from its
first rewrite on.
-/
namespace Cm.Cli

def PointsAt (Q : Str → VarDef → Decl → Prop) (st : St) (name : Str) (d : VarDef) : Prop :=
  ∃ its dd, getRoot st d.rule = some its ∧ its[d.item]? = some (.decl dd) ∧ dd.name = name ∧ Q name d dd

/-- every entry the table answers with points at its definition -/
def VarsInv (Q : Str → VarDef → Decl → Prop) (st : St) : Prop :=
  ∀ name d, lookupVar st.vars name = some d → PointsAt Q st name d

/-- what a relation between table entries and their definitions has to survive: the rewrite of a custom property (table and
    declaration get the new value), and a direct rewrite of a declaration the tool takes for a `color` declaration -/
structure DefRel (Q : Str → VarDef → Decl → Prop) : Prop where
  rewrite : ∀ name d dd v, Q name d dd → Q name { d with value := v } { dd with value := v ++ dd.comments }
  direct : ∀ name d dd v, Q name d dd → dd.lowerName = "color".toList → Q name d { dd with value := v ++ dd.comments }

/-- the relation the model keeps between a table value and the value of the defining declaration: as collected (`strip` of the
    declaration's value) or as rewritten (the value, then the kept comments) — unless the tool takes the definition itself for a
    `color` declaration. The name is not looked at: relations under `DefRel` take it, `TightFor` uses it -/
def DefAgrees (env : CliEnv) (_ : Str) (d : VarDef) (dd : Decl) : Prop :=
  dd.lowerName = "color".toList ∨ d.value = strip env dd.value ∨ dd.value = d.value ++ dd.comments

theorem defAgrees_rel (env : CliEnv) : DefRel (DefAgrees env) where
  rewrite := fun _ _ _ _ h => by
    rcases h with h | _ | _
    · exact .inl h
    · exact .inr (.inr rfl)
    · exact .inr (.inr rfl)
  direct := fun _ _ _ _ _ hc => .inl hc

/-- the invariant of the custom-property table as the property files state it: `VarsInv` with `DefAgrees` -/
def VarsPointAtDefs (env : CliEnv) (st : St) : Prop := VarsInv (DefAgrees env) st

/-- once `--x` has been rewritten the declaration holds the table value, then the kept comments -/
def TightFor (x : Str) (name : Str) (d : VarDef) (dd : Decl) : Prop :=
  name = x → dd.lowerName = "color".toList ∨ dd.value = d.value ++ dd.comments

theorem tightFor_rel (x : Str) : DefRel (TightFor x) where
  rewrite := fun _ _ _ _ _ _ => .inr rfl
  direct := fun _ _ _ _ _ hc _ => .inl hc

theorem PointsAt.mono {Q Q' : Str → VarDef → Decl → Prop} {st : St} {name : Str} {d : VarDef}
    (hQ : ∀ dd, Q name d dd → Q' name d dd) (h : PointsAt Q st name d) : PointsAt Q' st name d := by
  obtain ⟨its, dd, h1, h2, h3, h4⟩ := h
  exact ⟨its, dd, h1, h2, h3, hQ _ h4⟩

theorem VarsInv.mono {Q Q' : Str → VarDef → Decl → Prop} {st : St} (hQ : ∀ n d dd, Q n d dd → Q' n d dd)
    (h : VarsInv Q st) : VarsInv Q' st := fun n d hl => (h n d hl).mono (hQ n d)

theorem PointsAt.congr {Q : Str → VarDef → Decl → Prop} {s t : St} (h : s.rootDecls = t.rootDecls) {name : Str} {d : VarDef}
    (hp : PointsAt Q s name d) : PointsAt Q t name d := by
  obtain ⟨its, dd, h1, h2⟩ := hp
  refine ⟨its, dd, ?_, h2⟩
  unfold getRoot at h1 ⊢; rw [← h]; exact h1

theorem VarsInv.congr {Q : Str → VarDef → Decl → Prop} {s t : St} (h : StRel s t) (hi : VarsInv Q s) : VarsInv Q t := by
  intro name d hl
  rw [← h.1] at hl
  exact (hi name d hl).congr h.2

/-- Item `k` of block `i` gets the value `v` (`hg`, `hg'`: the blocks of `st'` are those of `st` with that one update). An entry
    `d` that pointed at its declaration still does, as `d'` (same position, by default the same entry). `hhit` says what relates
    entry and declaration when the declaration is the rewritten one, `hmiss` when it is another. -/
theorem PointsAt.setDecl {Q Q' : Str → VarDef → Decl → Prop} {st st' : St} {i k : Nat} {its : List Item} {v n : Str}
    {d d' : VarDef} (hp : PointsAt Q st n d) (hg : getRoot st i = some its)
    (hg' : ∀ j, getRoot st' j = getRoot (setRoot st i (setDeclValue its k v)) j)
    (hr : d'.rule = d.rule := by rfl) (hit : d'.item = d.item := by rfl)
    (hhit : ∀ dd, d.rule = i → d.item = k → its[k]? = some (.decl dd) → dd.name = n → Q n d dd →
      Q' n d' { dd with value := v ++ dd.comments })
    (hmiss : ∀ dd, ¬ (d.rule = i ∧ d.item = k) → Q n d dd → Q' n d' dd) : PointsAt Q' st' n d' := by
  obtain ⟨its', dd, h1, h2, h3, h4⟩ := hp
  unfold PointsAt
  rw [hr, hit, hg', getRoot_setRoot]
  by_cases hi : i = d.rule
  · subst hi
    rw [hg] at h1
    cases h1
    rw [if_pos rfl, hg]
    by_cases hk : d.item = k
    · subst hk
      exact ⟨_, { dd with value := v ++ dd.comments }, rfl, by rw [setDeclValue_getElem?, h2]; simp [setVal], h3,
        hhit dd rfl rfl h2 h3 h4⟩
    · exact ⟨_, dd, rfl, by rw [setDeclValue_getElem?, h2]; simp [hk], h3, hmiss dd (fun h => hk h.2) h4⟩
  · rw [if_neg hi]
    exact ⟨its', dd, h1, h2, h3, hmiss dd (fun h => hi h.1.symm) h4⟩

/-- Rewriting the custom property `name`: its entry and its definition get the new value (`hrew` says what then relates them);
    every other entry keeps pointing at its definition, related as before up to `hoth`. -/
theorem rewriteVar_varsInv {Q Q' : Str → VarDef → Decl → Prop} (st1 : St) (name : Str) (d : VarDef) (v : Str)
    (hi : VarsInv Q st1) (hl : lookupVar st1.vars name = some d)
    (hrew : ∀ dd, Q name d dd → Q' name { d with value := v } { dd with value := v ++ dd.comments })
    (hoth : ∀ n' d' dd', n' ≠ name → Q n' d' dd' → Q' n' d' dd') : VarsInv Q' (rewriteVar st1 name d v) := by
  obtain ⟨its, dd, hg, hit, hn, _⟩ := hi name d hl
  have hg' : ∀ j, getRoot (rewriteVar st1 name d v) j = getRoot (setRoot st1 d.rule (setDeclValue its d.item v)) j :=
    fun j => by unfold rewriteVar; rw [hg]; rfl
  intro n' d' hl'
  rw [rewriteVar_vars, lookupVar_map_set] at hl'
  split at hl'
  · next hnn =>
    subst hnn
    rw [hl] at hl'
    cases hl'
    exact (hi n' d hl).setDecl hg hg' (hhit := fun dd' _ _ _ _ hq' => hrew dd' hq')
      (hmiss := fun _ hne _ => (hne ⟨rfl, rfl⟩).elim)  -- the entry of `name` points at the rewritten item
  · next hnn =>
    -- another name cannot point at the rewritten item: that item is named `name` (`hn`), the item `n'` points at is named `n'`
    refine (hi n' d' hl').setDecl hg hg' (hmiss := fun dd' _ hq' => hoth n' d' dd' hnn hq')
      (hhit := fun dd' _ _ hit' hn' _ => ?_)
    rw [hit] at hit'
    cases hit'
    exact (hnn (hn'.symm.trans hn)).elim

/-- A direct rewrite of the last `color` declaration of a (possibly shared) rule keeps the table pointing at the definitions: if an
    entry points at that very declaration, `DefRel.direct` applies (its `lower_name` is `color`). -/
theorem shareBack_varsInv {Q : Str → VarDef → Decl → Prop} (hQ : DefRel Q) (top : Option Nat) {st st1 : St} (h1 : StRel st st1)
    (items0 : List Item) (ci : Nat) (cd : Decl) (v : Str) (hi : VarsInv Q st)
    (hl : lastDecl (seenItems top items0 st) "color".toList = some (ci, cd)) :
    VarsInv Q (shareBack top st st1 (setDeclValue (seenItems top items0 st) ci v)) := by
  unfold shareBack
  cases hs : sharedOf top st with
  | none => exact hi.congr h1
  | some p =>
    rw [seenItems_of_shared items0 hs] at hl ⊢
    obtain ⟨hci, hcol⟩ := lastDecl_getElem? _ _ _ _ hl
    intro n' d' hl'
    replace hl' : lookupVar st.vars n' = some d' := by rw [h1.1]; exact hl'
    refine (hi n' d' hl').setDecl (sharedOf_some hs).2 (stRel_setRoot h1.symm _ _).getRoot_eq (hmiss := fun _ _ hq => hq)
      (hhit := fun dd _ _ hit _ hq => ?_)
    rw [hci] at hit
    cases hit
    exact hQ.direct _ _ _ _ hq hcol

theorem processRule_varsInv {Q : Str → VarDef → Decl → Prop} (hQ : DefRel Q) (env : CliEnv) (cfg : Cfg) (top : Option Nat)
    (sel : Str) (items0 : List Item) (st : St) (hi : VarsInv Q st) :
    VarsInv Q (resSt (processRule env cfg top sel items0 st)) := by
  rw [processRule_eq_verdict]
  cases h : lastDecl (seenItems top items0 st) "color".toList with
  | none => exact hi
  | some p =>
    obtain ⟨ci, cd⟩ := p
    dsimp only
    cases verdict (evalOf env cfg st (seenItems top items0 st) cd) with
    | tuned =>
      simp only [tunedStep]
      cases h' : viaVarOf env st (strip env cd.value) with
      | some nd =>
        obtain ⟨name, d⟩ := nd
        exact rewriteVar_varsInv _ name d _ (hi.congr (stRel_tuneSt st _)) (viaVarOf_some h').2.2
          (hrew := fun _ => hQ.rewrite _ _ _ _) (hoth := fun _ _ _ _ hq => hq)
      | none =>
        dsimp only
        split
        next hraised => exact hi.congr (stRel_tuneSt st _)
        next hserialised => exact shareBack_varsInv hQ top (stRel_tuneSt st _) items0 ci cd _ hi h
    | accessible => exact hi.congr (stRel_accSt st)
    | failed inv => exact hi.congr (stRel_failSt st _)

theorem varsInv_respected {Q : Str → VarDef → Decl → Prop} (hQ : DefRel Q) (env : CliEnv) (cfg : Cfg) :
    Respected env cfg fun a b => VarsInv Q a → VarsInv Q b :=
  ⟨fun _ h => h, fun h1 h2 h => h2 (h1 h), fun top sel items st => processRule_varsInv hQ env cfg top sel items st⟩

theorem lookupVar_cons_filter (n : Str) (x : VarDef) (v : Vars) (m : Str) :
    lookupVar ((n, x) :: v.filter (·.1 ≠ n)) m = if n = m then some x else lookupVar v m := by
  unfold lookupVar
  by_cases h : n = m
  · rw [List.find?_cons_of_pos (by simp [h]), if_pos h]; rfl
  · rw [List.find?_cons_of_neg (by simp [h]), if_neg h, List.find?_filter]
    congr 2
    funext kv
    by_cases h2 : kv.1 = m
    · have hmn : ¬ m = n := fun e => h e.symm
      simp [h2, hmn]
    · simp [h2]

/-- what `collectVars` answers with is an old answer, or comes from a declaration of the list, with its index (`G`: any property
    of a name and its entry, true of both) -/
theorem collectVars_go_lookup (env : CliEnv) (ruleIdx : Nat) (G : Str → VarDef → Prop) :
    (rest : List Item) → (k : Nat) → (v : Vars) → (∀ n d, lookupVar v n = some d → G n d) →
    (∀ j dd, rest[j]? = some (.decl dd) → G dd.name { rule := ruleIdx, item := k + j, value := strip env dd.value }) →
    ∀ n d, lookupVar (collectVars.go env ruleIdx rest k v) n = some d → G n d
  | [], k, v, hv, _ => by simpa only [collectVars.go] using hv
  | it :: r, k, v, hv, hnew => by
    have hnew' : ∀ j dd', r[j]? = some (.decl dd') →
        G dd'.name { rule := ruleIdx, item := (k + 1) + j, value := strip env dd'.value } := by
      intro j dd' hj
      have := hnew (j + 1) dd' (by simpa using hj)
      rwa [show k + (j + 1) = k + 1 + j by omega] at this
    cases it with
    | other _ _ => exact collectVars_go_lookup env ruleIdx G r (k + 1) v hv hnew'
    | decl dd =>
      simp only [collectVars.go]
      split
      · refine collectVars_go_lookup env ruleIdx G r (k + 1) _ ?_ hnew'
        intro n d hl
        rw [lookupVar_cons_filter] at hl
        split at hl
        · next e => cases hl; subst e; exact hnew 0 dd rfl
        · exact hv n d hl
      · exact collectVars_go_lookup env ruleIdx G r (k + 1) v hv hnew'

theorem getRoot_append_old {st st' : St} {i : Nat} {items : List Item} (hr : st'.rootDecls = st.rootDecls ++ [(i, items)])
    {j : Nat} {its : List Item} (h : getRoot st j = some its) : getRoot st' j = some its := by
  unfold getRoot at h ⊢
  rw [hr, List.find?_append]
  cases hf : st.rootDecls.find? (·.1 = j) with
  | none => simp [hf] at h
  | some kv => simpa [hf] using h

theorem getRoot_append_new {st st' : St} {i : Nat} {items : List Item} (hr : st'.rootDecls = st.rootDecls ++ [(i, items)])
    (hlt : ∀ kv ∈ st.rootDecls, kv.1 < i) : getRoot st' i = some items := by
  unfold getRoot
  rw [hr, List.find?_append]
  have : st.rootDecls.find? (·.1 = i) = none := by
    rw [List.find?_eq_none]
    intro kv hkv; have := hlt kv hkv; simp; omega
  simp [this]

/-- `hlt` (all keys so far are below `i`): so that the block appended at key `i` is the one `getRoot … i` finds -/
theorem prePass_go_varsInv {Q : Str → VarDef → Decl → Prop} (env : CliEnv)
    (hinit : ∀ r k dd, Q dd.name { rule := r, item := k, value := strip env dd.value } dd) :
    (ns : List Node) → (i : Nat) → (st : St) → (∀ kv ∈ st.rootDecls, kv.1 < i) → VarsInv Q st →
    VarsInv Q (prePass.go env ns i st)
  | [], _, st, _, hi => by simpa only [prePass.go] using hi
  | n :: r, i, st, hlt, hi => by
    rw [prePass_go_cons]
    unfold preStep
    cases rootItems n with
    | none => exact prePass_go_varsInv env hinit r (i + 1) st (fun kv h => Nat.lt_succ_of_lt (hlt kv h)) hi
    | some items =>
      refine prePass_go_varsInv env hinit r (i + 1) _ ?_ ?_
      · intro kv hkv
        simp only [List.mem_append, List.mem_singleton] at hkv
        rcases hkv with h | h
        · exact Nat.lt_succ_of_lt (hlt kv h)
        · subst h; exact Nat.lt_succ_self _
      · intro n d hl
        refine collectVars_go_lookup env i
          (PointsAt Q { st with rootDecls := st.rootDecls ++ [(i, items)], vars := collectVars env i items st.vars })
          items 0 st.vars ?_ ?_ n d hl
        · intro n d hl
          obtain ⟨its, dd, h1, h2⟩ := hi n d hl
          exact ⟨its, dd, getRoot_append_old rfl h1, h2⟩
        · intro j dd hj
          refine ⟨items, dd, getRoot_append_new rfl hlt, ?_, rfl, hinit _ _ _⟩
          simpa using hj

theorem prePass_varsInv {Q : Str → VarDef → Decl → Prop} (env : CliEnv)
    (hinit : ∀ r k dd, Q dd.name { rule := r, item := k, value := strip env dd.value } dd) (nodes : List Node) :
    VarsInv Q (prePass env nodes) := by
  unfold prePass
  refine prePass_go_varsInv env hinit nodes 0 {} (by intro kv h; simp at h) ?_
  intro n d h; simp [lookupVar] at h

theorem defAgrees_init (env : CliEnv) (r k : Nat) (dd : Decl) :
    DefAgrees env dd.name { rule := r, item := k, value := strip env dd.value } dd := .inr (.inl rfl)

/-- Right after `--x` is rewritten its definition holds the table value followed by the kept comments; `TightFor name` asks
    nothing of the other names. -/
theorem rewriteVar_tight {Q : Str → VarDef → Decl → Prop} (st1 : St) (name : Str) (d : VarDef) (v : Str)
    (hi : VarsInv Q st1) (hl : lookupVar st1.vars name = some d) : VarsInv (TightFor name) (rewriteVar st1 name d v) :=
  rewriteVar_varsInv st1 name d v hi hl (hrew := fun _ _ _ => .inr rfl) (hoth := fun _ _ _ hne _ e => (hne e).elim)

end Cm.Cli
