import CmModel.Lab
import Mathlib.Analysis.SpecialFunctions.Pow.Real
import Mathlib.Analysis.SpecialFunctions.Trigonometric.Basic
import Mathlib.Analysis.SpecialFunctions.Complex.Arg
import Mathlib.Analysis.SpecialFunctions.Exp
/-!
# The real-number carrier

`realNum : NumT ℝ` is a *definition*, not an instance, so that ordinary `+`, `≤`, … on `ℝ` in proof
files keep resolving to Mathlib's instances. Theorems about the model at `ℝ` are stated as
`@Cm.f ℝ realNum …`; the lemmas below rewrite the carrier's operations into Mathlib's.
-/
open Classical in
/-- ℝ as a numeric carrier: exact field operations, `Real.rpow`, `Real.sqrt`, …,
    `atan2 b a = Complex.arg (a + b i)`; `inf` and `nan` are junk values, as `Num` allows -/
@[instance_reducible] noncomputable def Cm.realNum : Cm.NumT ℝ where
  add := (· + ·)
  sub := (· - ·)
  mul := (· * ·)
  div := (· / ·)
  neg := fun a => -a
  ofScientific m s e := (OfScientific.ofScientific m s e : ℝ)
  ofInt := fun n => (n : ℝ)
  le a b := decide (a ≤ b)
  lt a b := decide (a < b)
  floor := fun a => ⌊a⌋
  abs := fun a => |a|
  pmod a b := a - b * (⌊a / b⌋ : ℝ)
  finite _ := true
  ofDecimal neg m e := (if neg then -1 else 1) * (m : ℝ) * (10 : ℝ) ^ e
  inf := 0
  nan := 0
  rpow := fun a b => a ^ b
  sqrt := Real.sqrt
  exp := Real.exp
  sin := Real.sin
  cos := Real.cos
  atan2 := fun b a => Complex.arg ⟨a, b⟩
  pi := Real.pi

namespace Cm
open Real

section
variable (a b : ℝ)
@[simp] theorem real_add : @HAdd.hAdd ℝ ℝ ℝ (@instHAdd ℝ realNum.toNum.toAdd) a b = a + b := rfl
@[simp] theorem real_sub : @HSub.hSub ℝ ℝ ℝ (@instHSub ℝ realNum.toNum.toSub) a b = a - b := rfl
@[simp] theorem real_mul : @HMul.hMul ℝ ℝ ℝ (@instHMul ℝ realNum.toNum.toMul) a b = a * b := rfl
@[simp] theorem real_div : @HDiv.hDiv ℝ ℝ ℝ (@instHDiv ℝ realNum.toNum.toDiv) a b = a / b := rfl
@[simp] theorem real_neg : @Neg.neg ℝ realNum.toNum.toNeg a = -a := rfl
@[simp] theorem real_sci (m : ℕ) (s : Bool) (e : ℕ) :
    @OfScientific.ofScientific ℝ realNum.toNum.toOfScientific m s e = (OfScientific.ofScientific m s e : ℝ) := rfl
@[simp] theorem real_ofInt (n : ℤ) : @Num.ofInt ℝ realNum.toNum n = (n : ℝ) := rfl
@[simp] theorem real_le : @Num.le ℝ realNum.toNum a b = true ↔ a ≤ b := decide_eq_true_iff
@[simp] theorem real_lt : @Num.lt ℝ realNum.toNum a b = true ↔ a < b := decide_eq_true_iff
@[simp] theorem real_ge : @Num.ge ℝ realNum.toNum a b = true ↔ b ≤ a := real_le b a
@[simp] theorem real_gt : @Num.gt ℝ realNum.toNum a b = true ↔ b < a := real_lt b a
@[simp] theorem real_abs : @Num.abs ℝ realNum.toNum a = |a| := rfl
@[simp] theorem real_floor : @Num.floor ℝ realNum.toNum a = ⌊a⌋ := rfl
@[simp] theorem real_rpow : @NumT.rpow ℝ realNum a b = a ^ b := rfl
@[simp] theorem real_sqrt : @NumT.sqrt ℝ realNum a = Real.sqrt a := rfl
@[simp] theorem real_exp : @NumT.exp ℝ realNum a = Real.exp a := rfl
@[simp] theorem real_sin : @NumT.sin ℝ realNum a = Real.sin a := rfl
@[simp] theorem real_cos : @NumT.cos ℝ realNum a = Real.cos a := rfl
@[simp] theorem real_pi : @NumT.pi ℝ realNum = Real.pi := rfl
@[simp] theorem real_atan2 : @NumT.atan2 ℝ realNum b a = Complex.arg ⟨a, b⟩ := rfl
@[simp] theorem real_pmax : @Num.pmax ℝ realNum.toNum a b = max a b := by
  unfold Num.pmax
  simp only [real_lt]
  exact (max_def_lt a b).symm
@[simp] theorem real_pmin : @Num.pmin ℝ realNum.toNum a b = min a b := by
  unfold Num.pmin
  simp only [real_lt]
  exact (min_def_lt b a).symm.trans (min_comm b a)

@[simp] theorem real_eq : @Num.eq ℝ realNum.toNum a b = true ↔ a = b := by
  unfold Num.eq
  rw [Bool.and_eq_true, real_le, real_le, le_antisymm_iff]

theorem real_lt_false : @Num.lt ℝ realNum.toNum a b = false ↔ b ≤ a := by
  rw [← not_lt, ← real_lt, Bool.not_eq_true]

theorem real_sq : @sq ℝ realNum a = a ^ 2 := by
  show a ^ (2.0 : ℝ) = a ^ 2
  rw [show (2.0 : ℝ) = ((2 : ℕ) : ℝ) by norm_num, Real.rpow_natCast]

theorem real_pow7 : @pow7 ℝ realNum a = a ^ 7 := by
  show a ^ (7.0 : ℝ) = a ^ 7
  rw [show (7.0 : ℝ) = ((7 : ℕ) : ℝ) by norm_num, Real.rpow_natCast]
end

theorem real_roundHE_int (n : ℤ) : @Num.roundHE ℝ realNum.toNum (n : ℝ) = n := by
  unfold Num.roundHE
  simp only [real_floor, Int.floor_intCast, real_ofInt, sub_self, real_sci]
  rw [if_pos]
  rw [real_lt]; norm_num

end Cm
