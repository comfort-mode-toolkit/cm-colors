import CmModel.Num
/-! Consequences of `LawfulNumOrd`. Under `open Cm` with Mathlib imported the unprimed names overload Mathlib's (picked by type). -/
namespace Cm
variable {α : Type} [Num α] [LawfulNumOrd α]

theorem le_of_not_le {a b : α} (h : Num.le a b = false) : Num.le b a = true := by
  rcases LawfulNumOrd.le_total a b with h' | h'
  · rw [h] at h'; cases h'
  · exact h'

theorem le_of_lt {a b : α} (h : Num.lt a b = true) : Num.le a b = true :=
  le_of_not_le ((LawfulNumOrd.lt_iff a b).1 h)

theorem not_lt_of_le {a b : α} (h : Num.le a b = true) : Num.lt b a = false := by
  cases hlt : Num.lt b a with
  | false => rfl
  | true => have := (LawfulNumOrd.lt_iff b a).1 hlt; rw [h] at this; cases this

theorem le_of_not_lt {a b : α} (h : Num.lt b a = false) : Num.le a b = true := by
  cases hle : Num.le a b with
  | true => rfl
  | false => have := (LawfulNumOrd.lt_iff b a).2 hle; rw [h] at this; cases this

theorem le_trans' {a b c : α} (h1 : Num.le a b = true) (h2 : Num.le b c = true) : Num.le a c = true :=
  LawfulNumOrd.le_trans a b c h1 h2

theorem le_rfl' (a : α) : Num.le a a = true := LawfulNumOrd.le_refl a

theorem lt_of_lt_of_le' {a b c : α} (h1 : Num.lt a b = true) (h2 : Num.le b c = true) : Num.lt a c = true := by
  cases h : Num.lt a c with
  | true => rfl
  | false => have := not_lt_of_le (le_trans' h2 (le_of_not_lt h)); rw [h1] at this; cases this

end Cm
