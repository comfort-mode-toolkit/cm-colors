import CmProofs.ColorReal
import CmProofs.WcagReal
/-!
# CIEDE2000 is zero only for identical colours

`x² + y² + r·x·y` is positive definite for `|r| < 2`, so a vanishing radicand forces `ΔL' = ΔC' = ΔH' = 0`; the hue
angle is injective on non-zero vectors of equal length and `1 + G > 0`, so the Lab triples agree. The Lab triple
determines the linear-light channels unless the lightness is clamped (`lab_transform` is strictly monotone, Cramer's
rule for the sRGB → XYZ matrix).
-/
namespace Cm
open Real

theorem quad_eq_zero (x y r : ℝ) (hr : |r| < 2) (h : x ^ 2 + y ^ 2 + r * x * y = 0) :
    x = 0 ∧ y = 0 := by
  have h4 : 0 < 4 - r ^ 2 := by
    have := sq_lt_sq' (abs_lt.1 hr).1 (abs_lt.1 hr).2; linarith
  have e := quad_identity x y r
  rw [h, mul_zero, eq_comm,
    add_eq_zero_iff_of_nonneg (sq_nonneg _) (mul_nonneg h4.le (sq_nonneg y))] at e
  have hy : y = 0 := by simpa [h4.ne'] using e.2
  have hx : x = 0 := by simpa [hy] using e.1
  exact ⟨hx, hy⟩

theorem coreForm_eq_zero (x y z r : ℝ) (hr : |r| < 2) (h : coreForm x y z r = 0) :
    x = 0 ∧ y = 0 ∧ z = 0 := by
  rw [coreForm_eq, add_eq_zero_iff_of_nonneg (sq_nonneg x) (quad_nonneg y z r hr.le)] at h
  exact ⟨pow_eq_zero_iff two_ne_zero |>.1 h.1, quad_eq_zero y z r hr h.2⟩

theorem radicand_eq_zero_terms (p q : Lab) (h : radicand p q = 0) :
    dLP p q = 0 ∧ dCP p q = 0 ∧ dHP p q = 0 := by
  unfold radicand at h
  obtain ⟨h1, h2, h3⟩ := coreForm_eq_zero _ _ _ _ (abs_RTR_lt_two (CmP_nonneg p q) _) h
  have sl : SLR (LmP p q) ≠ 0 := (lt_of_lt_of_le one_pos (SLR_ge_one _)).ne'
  have sc : SCR (CmP p q) ≠ 0 := (lt_of_lt_of_le one_pos (SCR_ge_one (CmP_nonneg p q))).ne'
  have sh : SHR (CmP p q) (HmP p q) ≠ 0 :=
    (lt_of_lt_of_le one_pos (SHR_ge_one (CmP_nonneg p q) _)).ne'
  exact ⟨(div_eq_zero_iff.1 h1).resolve_right sl, (div_eq_zero_iff.1 h2).resolve_right sc,
    (div_eq_zero_iff.1 h3).resolve_right sh⟩

theorem one_add_Gpq_pos (p q : Lab) : 0 < 1 + Gpq p q :=
  add_pos one_pos (GR_range (chromaMean_nonneg p q)).1

theorem norm_mk_eq_chroma (a b : ℝ) : ‖(⟨a, b⟩ : ℂ)‖ = chroma a b := by
  rw [Complex.norm_def, Complex.normSq_mk, chroma]

theorem hueR_inj {a1 b1 a2 b2 : ℝ} (hn : chroma a1 b1 ≠ 0) (hC : chroma a1 b1 = chroma a2 b2)
    (hh : hueR a1 b1 = hueR a2 b2) : a1 = a2 ∧ b1 = b2 := by
  unfold hueR at hh
  rw [if_neg (mt chroma_eq_zero.2 hn), if_neg (mt chroma_eq_zero.2 (hC ▸ hn))] at hh
  have hdeg := wrap_inj (argDeg_range ⟨a1, b1⟩) (argDeg_range ⟨a2, b2⟩) hh
  rw [div_left_inj' Real.pi_pos.ne', mul_left_inj' (by norm_num)] at hdeg
  have hz : (⟨a1, b1⟩ : ℂ) = ⟨a2, b2⟩ :=
    Complex.ext_norm_arg (by rw [norm_mk_eq_chroma, norm_mk_eq_chroma, hC]) hdeg
  exact ⟨congrArg Complex.re hz, congrArg Complex.im hz⟩

theorem dhpR_range_and_zero {C1 C2 h1 h2 : ℝ} (hC : ¬ (C1 = 0 ∨ C2 = 0))
    (r1 : 0 ≤ h1 ∧ h1 < 360) (r2 : 0 ≤ h2 ∧ h2 < 360) :
    -180 ≤ dhpR C1 C2 h1 h2 ∧ dhpR C1 C2 h1 h2 ≤ 180 ∧ (dhpR C1 C2 h1 h2 = 0 → h1 = h2) := by
  unfold dhpR
  rw [if_neg hC]
  obtain ⟨a1, b1⟩ := r1
  obtain ⟨a2, b2⟩ := r2
  split_ifs with hle hgt
  · obtain ⟨x, y⟩ := abs_le.1 hle
    exact ⟨x, y, fun h => by linarith⟩
  · exact ⟨by linarith, by linarith, fun h => by linarith⟩
  · have hlt := lt_neg_of_not_abs_le hle hgt
    exact ⟨by linarith, by linarith, fun h => by linarith⟩

/-- `d/2` in radians is `(d/360)·π`, strictly inside `(-π, π)`, where `sin` vanishes only at `0` -/
theorem sin_radR_half_eq_zero {d : ℝ} (lo : -180 ≤ d) (hi : d ≤ 180) : sin (radR (d / 2)) = 0 ↔ d = 0 := by
  have hpi := Real.pi_pos
  have hlo : -π < d / 360 * π := by
    rw [← neg_one_mul]; exact mul_lt_mul_of_pos_right (by linarith) hpi
  have hhi : d / 360 * π < π := by
    conv_rhs => rw [← one_mul π]
    exact mul_lt_mul_of_pos_right (by linarith) hpi
  rw [radR, show d / 2 * (π / 180) = d / 360 * π by ring, Real.sin_eq_zero_iff_of_lt_of_lt hlo hhi,
    mul_eq_zero, or_iff_left hpi.ne', div_eq_zero_iff, or_iff_left (by norm_num)]

/-- `hH` is CIEDE2000's `ΔH' = 0` for two plane vectors of equal length: either both are zero, or `sin (Δh'/2) = 0`
with `Δh' ∈ [-180°, 180°]` forces equal hue angles -/
theorem polar_eq {a1 b1 a2 b2 : ℝ} (hC : chroma a1 b1 = chroma a2 b2)
    (hH : 2 * √(chroma a1 b1 * chroma a2 b2) *
      sin (radR (dhpR (chroma a1 b1) (chroma a2 b2) (hueR a1 b1) (hueR a2 b2) / 2)) = 0) :
    a1 = a2 ∧ b1 = b2 := by
  by_cases hz : chroma a1 b1 = 0
  · obtain ⟨x1, y1⟩ := chroma_eq_zero.1 hz
    obtain ⟨x2, y2⟩ := chroma_eq_zero.1 (hC ▸ hz)
    exact ⟨x1.trans x2.symm, y1.trans y2.symm⟩
  · obtain ⟨lo, hi, hzero⟩ :=
      dhpR_range_and_zero (not_or.2 ⟨hz, hC ▸ hz⟩) (hueR_range a1 b1) (hueR_range a2 b2)
    have hsin := (mul_eq_zero.1 hH).resolve_left
      (mul_ne_zero two_ne_zero (by rwa [← hC, Real.sqrt_mul_self (chroma_nonneg _ _)]))
    exact hueR_inj hz hC (hzero ((sin_radR_half_eq_zero lo hi).1 hsin))

theorem radicand_eq_zero_imp_eq (p q : Lab) (h : radicand p q = 0) : p = q := by
  obtain ⟨hL, hCz, hH⟩ := radicand_eq_zero_terms p q h
  have hg := one_add_Gpq_pos p q
  obtain ⟨ha, hb⟩ := polar_eq (a1 := aP (Gpq p q) p) (a2 := aP (Gpq p q) q) (sub_eq_zero.1 hCz).symm hH
  obtain ⟨L1, a1, b1⟩ := p
  obtain ⟨L2, a2, b2⟩ := q
  have eL : L2 = L1 := sub_eq_zero.1 hL
  have ea : a1 = a2 := mul_right_cancel₀ hg.ne' ha
  have eb : b1 = b2 := hb
  rw [eL, ea, eb]

/-- `lab_transform` at ℝ -/
noncomputable def labFR (t : ℝ) : ℝ :=
  if 0.008856 < t then t ^ ((1 : ℝ) / 3) else 7.787 * t + 16 / 116

theorem labF_real (t : ℝ) : @labF ℝ realNum t = labFR t := by
  unfold labF labFR
  simp only [real_gt, real_rpow, real_add, real_mul, real_div, real_sci]
  norm_num only

theorem cbrt_pow_three {t : ℝ} (ht : 0 ≤ t) : (t ^ ((1 : ℝ) / 3)) ^ (3 : ℕ) = t :=
  (rpow_pow_of_mul_eq ht (by norm_num)).trans (pow_one t)

theorem labFR_junction {t : ℝ} (ht : 0.008856 < t) :
    7.787 * (0.008856 : ℝ) + 16 / 116 < t ^ ((1 : ℝ) / 3) := by
  have ht0 : (0 : ℝ) ≤ t := le_trans (by norm_num) ht.le
  apply lt_of_pow_lt_pow_left₀ 3 (rpow_nonneg ht0 _)
  rw [cbrt_pow_three ht0]
  refine lt_trans ?_ ht
  norm_num only

theorem labFR_strictMono : StrictMono labFR :=
  strictMono_of_glue (c := 0.008856) (f := fun t => 7.787 * t + 16 / 116) (g := fun t => t ^ ((1 : ℝ) / 3))
    (hl := fun x hx => if_neg (not_lt.2 hx)) (hr := fun x hx => if_pos hx)
    (hf := fun x _ y _ hxy => by simp only; linarith)
    (hg := fun x hx y _ hxy => rpow_lt_rpow (le_trans (by norm_num) (le_of_lt hx)) hxy (by norm_num))
    (hfg := fun y hy => labFR_junction hy)

theorem labFR_one : labFR 1 = 1 := by
  unfold labFR; rw [if_pos (by norm_num), one_rpow]

theorem labFR_zero : labFR 0 = 16 / 116 := by
  unfold labFR; rw [if_neg (by norm_num)]; norm_num

theorem labFR_ge_of_nonneg {t : ℝ} (ht : 0 ≤ t) : 16 / 116 ≤ labFR t := by
  rw [← labFR_zero]; exact labFR_strictMono.le_iff_le.2 ht

theorem one_le_of_one_le_labFR {t : ℝ} (h : 1 ≤ labFR t) : 1 ≤ t := by
  rw [← labFR_one] at h; exact labFR_strictMono.le_iff_le.1 h

/-- normalised tristimulus values from linear-light channels -/
noncomputable def xnR (r g b : ℝ) : ℝ := (r * 0.4124564 + g * 0.3575761 + b * 0.1804375) * 100 / 95.047
noncomputable def ynR (r g b : ℝ) : ℝ := (r * 0.2126729 + g * 0.7151522 + b * 0.0721750) * 100 / 100
noncomputable def znR (r g b : ℝ) : ℝ := (r * 0.0193339 + g * 0.1191920 + b * 0.9503041) * 100 / 108.883

/-- `xyz_to_lab ∘ rgb_to_xyz` from linear-light channels -/
noncomputable def labOfLin (r g b : ℝ) : Lab :=
  (max 0 (min 100 (116 * labFR (ynR r g b) - 16)),
   500 * (labFR (xnR r g b) - labFR (ynR r g b)),
   200 * (labFR (ynR r g b) - labFR (znR r g b)))

theorem rgbToLab_real (c : RGB) :
    @rgbToLab ℝ realNum c =
      labOfLin (linChan c.1) (linChan c.2.1) (linChan c.2.2) := by
  unfold rgbToLab xyzToLab rgbToXyz labOfLin xnR ynR znR
  simp only [srgbToLinear_real, chan_real, ← linChan_def, labF_real, real_pmax, real_pmin, real_add, real_sub,
    real_mul, real_div, real_sci]
  norm_num only

theorem eq_or_le_of_min_eq {c v w : ℝ} (h : min c v = min c w) : v = w ∨ (c ≤ v ∧ c ≤ w) := by
  rcases le_total c v with hv | hv <;> rcases le_total c w with hw | hw
  · exact Or.inr ⟨hv, hw⟩
  · rw [min_eq_left hv, min_eq_right hw] at h; exact Or.inr ⟨hv, h.le⟩
  · rw [min_eq_right hv, min_eq_left hw] at h; exact Or.inr ⟨h.ge, hw⟩
  · rw [min_eq_right hv, min_eq_right hw] at h; exact Or.inl h

/-- Cramer's rule -/
theorem lin3_eq_zero {a b c d e f g h i x y z : ℝ}
    (hdet : a * (e * i - f * h) - b * (d * i - f * g) + c * (d * h - e * g) ≠ 0)
    (h1 : a * x + b * y + c * z = 0) (h2 : d * x + e * y + f * z = 0)
    (h3 : g * x + h * y + i * z = 0) : x = 0 ∧ y = 0 ∧ z = 0 := by
  refine ⟨(mul_eq_zero.1 ?_).resolve_left hdet, (mul_eq_zero.1 ?_).resolve_left hdet,
    (mul_eq_zero.1 ?_).resolve_left hdet⟩
  · linear_combination (e * i - f * h) * h1 - (b * i - c * h) * h2 + (b * f - c * e) * h3
  · linear_combination -(d * i - f * g) * h1 + (a * i - c * g) * h2 - (a * f - c * d) * h3
  · linear_combination (d * h - e * g) * h1 - (a * h - b * g) * h2 + (a * e - b * d) * h3

theorem xyzR_inj {r g b r' g' b' : ℝ} (hx : xnR r g b = xnR r' g' b') (hy : ynR r g b = ynR r' g' b')
    (hz : znR r g b = znR r' g' b') : r = r' ∧ g = g' ∧ b = b' := by
  unfold xnR at hx; unfold ynR at hy; unfold znR at hz
  obtain ⟨er, eg, eb⟩ := lin3_eq_zero (x := r - r') (y := g - g') (z := b - b')
    (a := 0.4124564) (b := 0.3575761) (c := 0.1804375) (d := 0.2126729) (e := 0.7151522)
    (f := 0.0721750) (g := 0.0193339) (h := 0.1191920) (i := 0.9503041) (by norm_num)
    (by linear_combination (95.047 / 100) * hx) (by linear_combination hy)
    (by linear_combination (108.883 / 100) * hz)
  exact ⟨sub_eq_zero.1 er, sub_eq_zero.1 eg, sub_eq_zero.1 eb⟩

theorem ynR_nonneg {r g b : ℝ} (hr : 0 ≤ r) (hg : 0 ≤ g) (hb : 0 ≤ b) : 0 ≤ ynR r g b := by
  unfold ynR; positivity

/-- the second alternative: both lightness values are clamped at 100 (`Y/Yn ≥ 1`) -/
theorem labOfLin_inj {r g b r' g' b' : ℝ}
    (hr : 0 ≤ r) (hg : 0 ≤ g) (hb : 0 ≤ b) (hr' : 0 ≤ r') (hg' : 0 ≤ g') (hb' : 0 ≤ b')
    (h : labOfLin r g b = labOfLin r' g' b') :
    (r = r' ∧ g = g' ∧ b = b') ∨ (1 ≤ ynR r g b ∧ 1 ≤ ynR r' g' b') := by
  unfold labOfLin at h
  obtain ⟨h1, h2, h3⟩ : _ ∧ _ ∧ _ := by simpa only [Prod.mk.injEq] using h
  have v0 := labFR_ge_of_nonneg (ynR_nonneg hr hg hb)
  have v0' := labFR_ge_of_nonneg (ynR_nonneg hr' hg' hb')
  -- the lower clamp at `0` is never active: `116 · f(y) − 16 ≥ 0` as `f(y) ≥ 16/116`
  rw [max_eq_right (le_min (by norm_num) (by linear_combination 116 * v0)),
    max_eq_right (le_min (by norm_num) (by linear_combination 116 * v0'))] at h1
  rcases eq_or_le_of_min_eq h1 with e | ⟨c1, c2⟩
  · left
    have ey : labFR (ynR r g b) = labFR (ynR r' g' b') := by linear_combination e / 116
    exact xyzR_inj (labFR_strictMono.injective (by linear_combination h2 / 500 + ey))
      (labFR_strictMono.injective ey) (labFR_strictMono.injective (by linear_combination ey - h3 / 200))
  · right
    exact ⟨one_le_of_one_le_labFR (by linear_combination c1 / 116),
      one_le_of_one_le_labFR (by linear_combination c2 / 116)⟩

/-- only the channel value 255 linearises to more than 0.9963: `x ^ 2.4 ≤ x` for `x ≤ 1`, and
`(254/255 + 0.055) / 1.055 < 0.9963`. Used by `C11.clamp_only_white`, where `Y/Yn ≥ 1` forces every channel above
`0.9999` -/
theorem eq_255_of_lin_gt {v : ℤ} (h : v ≤ 255) (hl : 0.9963 < linChan v) : v = 255 := by
  by_contra hne
  have hb0 : (0 : ℝ) < (((254 : ℤ) : ℝ) / 255 + 0.055) / 1.055 := by norm_num
  have hb1 : (((254 : ℤ) : ℝ) / 255 + 0.055) / 1.055 ≤ 1 := by norm_num
  have h254 : linChan 254 ≤ 0.9963 := by
    rw [linChan_def, lin, if_neg (by norm_num)]
    calc ((((254 : ℤ) : ℝ) / 255 + 0.055) / 1.055) ^ (2.4 : ℝ)
        ≤ ((((254 : ℤ) : ℝ) / 255 + 0.055) / 1.055) ^ (1 : ℝ) :=
          rpow_le_rpow_of_exponent_ge hb0 hb1 (by norm_num)
      _ = (((254 : ℤ) : ℝ) / 255 + 0.055) / 1.055 := rpow_one _
      _ ≤ 0.9963 := by norm_num
  have hv : linChan v ≤ linChan 254 := linChan_strictMono.monotone (by omega)
  linarith

end Cm
