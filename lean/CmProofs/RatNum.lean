import CmModel.Num
import Mathlib.Tactic.NormNum
import Mathlib.Tactic.Linarith
import Mathlib.Tactic.Ring
import Mathlib.Tactic.FieldSimp
import Mathlib.Algebra.Order.Field.Basic
import Mathlib.Algebra.Order.Floor.Ring
import Mathlib.Data.Rat.Floor
/-!
# The exact rational carrier in Mathlib's vocabulary

`Cm.ratNum : Cm.Num ℚ` is the carrier of the *exact* model of parsing, compositing and HSL. The lemmas rewrite its
operations into Mathlib's so that `ring`, `linarith`, `norm_num` apply. It is deliberately not an instance.
-/
namespace Cm

section
variable (a b : ℚ)
@[simp] theorem rat_add : @HAdd.hAdd ℚ ℚ ℚ (@instHAdd ℚ ratNum.toAdd) a b = a + b := rfl
@[simp] theorem rat_sub : @HSub.hSub ℚ ℚ ℚ (@instHSub ℚ ratNum.toSub) a b = a - b := rfl
@[simp] theorem rat_mul : @HMul.hMul ℚ ℚ ℚ (@instHMul ℚ ratNum.toMul) a b = a * b := rfl
@[simp] theorem rat_div : @HDiv.hDiv ℚ ℚ ℚ (@instHDiv ℚ ratNum.toDiv) a b = a / b := rfl
@[simp] theorem rat_neg : @Neg.neg ℚ ratNum.toNeg a = -a := rfl
@[simp] theorem rat_sci (m : ℕ) (s : Bool) (e : ℕ) :
    @OfScientific.ofScientific ℚ ratNum.toOfScientific m s e = (OfScientific.ofScientific m s e : ℚ) := rfl
@[simp] theorem rat_ofInt (n : ℤ) : @Num.ofInt ℚ ratNum n = (n : ℚ) := rfl
@[simp] theorem rat_le : @Num.le ℚ ratNum a b = true ↔ a ≤ b := by
  show decide (a ≤ b) = true ↔ _; simp
@[simp] theorem rat_lt : @Num.lt ℚ ratNum a b = true ↔ a < b := by
  show decide (a < b) = true ↔ _; simp
@[simp] theorem rat_ge : @Num.ge ℚ ratNum a b = true ↔ b ≤ a := rat_le b a
@[simp] theorem rat_gt : @Num.gt ℚ ratNum a b = true ↔ b < a := rat_lt b a
@[simp] theorem rat_eq : @Num.eq ℚ ratNum a b = true ↔ a = b := by
  unfold Num.eq
  rw [Bool.and_eq_true, rat_le, rat_le, le_antisymm_iff]
@[simp] theorem rat_floor : @Num.floor ℚ ratNum a = ⌊a⌋ := by
  -- not `:= rfl`: as a `rfl`-lemma it is applied by `dsimp`, and `simp only [rat_floor, …]` leaves
  -- `ParseSpec.roundQ_def` open
  rfl
@[simp] theorem rat_pmax : @Num.pmax ℚ ratNum a b = max a b := by
  rw [max_def_lt]
  exact if_congr (rat_lt a b) rfl rfl
@[simp] theorem rat_pmin : @Num.pmin ℚ ratNum a b = min a b := by
  rw [min_comm, min_def_lt]
  exact if_congr (rat_lt b a) rfl rfl
theorem rat_abs : @Num.abs ℚ ratNum a = |a| := by
  show (if a < 0 then -a else a) = |a|
  split_ifs with h
  · exact (abs_of_neg h).symm
  · exact (abs_of_nonneg (not_lt.1 h)).symm
end

/-! the model's decimal literals, which `rat_sci` leaves as `OfScientific.ofScientific` -/
theorem lit0 : (0.0 : ℚ) = 0 := by norm_num
theorem lit1 : (1.0 : ℚ) = 1 := by norm_num
theorem lit2 : (2.0 : ℚ) = 2 := by norm_num
theorem lit3 : (3.0 : ℚ) = 3 := by norm_num
theorem lit4 : (4.0 : ℚ) = 4 := by norm_num
theorem lit6 : (6.0 : ℚ) = 6 := by norm_num
theorem lit05 : (0.5 : ℚ) = 1 / 2 := by norm_num
theorem lit60 : (60.0 : ℚ) = 60 := by norm_num
theorem lit100 : (100.0 : ℚ) = 100 := by norm_num
theorem lit255 : (255.0 : ℚ) = 255 := by norm_num
theorem lit360 : (360.0 : ℚ) = 360 := by norm_num

theorem rat_roundHE_int (n : ℤ) : @Num.roundHE ℚ ratNum (n : ℚ) = n := by
  unfold Num.roundHE
  simp only [rat_floor, rat_lt, rat_ofInt, rat_sci, Int.floor_intCast, sub_self, lit05]
  rw [if_pos (by norm_num)]

namespace HslRt
/-- Python's `%`; it stands with the other `rat_*` lemmas because `ParseSpec`, which does not import the HSL proofs,
    uses it beside them -/
theorem rat_pmod (a b : ℚ) : @Num.pmod ℚ ratNum a b = a - b * (⌊a / b⌋ : ℚ) := rfl
end HslRt

end Cm
