import CmProofs.RatNum
import CmProofs.ParseCore
import CmProofs.ParseStr
import CmProofs.Rgb
import Mathlib.Algebra.Order.Round
import Mathlib.Tactic.Positivity
/-!
# What the parser's numbers mean, at the exact rational carrier

CSS Color 3 §4.2.4 (`hue_to_rgb`, `hsl_to_rgb`, the hue normalisation) is written down as in the standard; the
model's `hslF` / `hslToRgbCore`, Python's `% 360`, `round`, `int`, the tokens and the two compositing steps are
stated against it.
-/
namespace Cm.ParseSpec
open Cm Cm.Parse

/-- Python `round` at the rational carrier -/
abbrev roundQ (x : ℚ) : ℤ := @Num.roundHE ℚ ratNum x
/-- Python `int` at the rational carrier -/
abbrev truncQ (x : ℚ) : ℤ := @Num.trunc ℚ ratNum x
/-- Python float `%` at the rational carrier -/
abbrev pmodQ (x m : ℚ) : ℚ := @Num.pmod ℚ ratNum x m

theorem roundQ_def (x : ℚ) : roundQ x =
    if x - ⌊x⌋ < 1 / 2 then ⌊x⌋ else if 1 / 2 < x - ⌊x⌋ then ⌊x⌋ + 1
    else if ⌊x⌋ % 2 = 0 then ⌊x⌋ else ⌊x⌋ + 1 := by
  show @Num.roundHE ℚ ratNum x = _
  unfold Num.roundHE
  simp only [rat_floor, rat_sub, rat_ofInt, rat_lt, lit05]

theorem roundQ_near (x : ℚ) : |(roundQ x : ℚ) - x| ≤ 1 / 2 := by
  have h0 : 0 ≤ x - ⌊x⌋ := sub_nonneg.2 (Int.floor_le x)
  have h1 : x - ⌊x⌋ < 1 := sub_lt_iff_lt_add'.2 (Int.lt_floor_add_one x)
  -- rounding down is off by the fractional part `x - ⌊x⌋`, rounding up by what it lacks to 1
  have dn : x - ⌊x⌋ ≤ 1 / 2 → |((⌊x⌋ : ℤ) : ℚ) - x| ≤ 1 / 2 := fun h => by
    rwa [abs_sub_comm, abs_of_nonneg h0]
  have up : 1 / 2 ≤ x - ⌊x⌋ → |((⌊x⌋ + 1 : ℤ) : ℚ) - x| ≤ 1 / 2 := fun h => by
    rw [Int.cast_add, Int.cast_one, abs_of_nonneg (by linarith only [h1])]
    linarith only [h]
  rw [roundQ_def]
  split_ifs with a b c
  · exact dn a.le
  · exact up b.le
  · exact dn (not_lt.1 b)
  · exact up (not_lt.1 a)

theorem int_mem_byte {n : ℤ} {x : ℚ} (h : 0 ≤ x ∧ x ≤ 255) (h1 : x - 1 < n) (h2 : (n : ℚ) < x + 1) :
    0 ≤ n ∧ n ≤ 255 := by
  have a : ((-1 : ℤ) : ℚ) < n := by push_cast; linarith only [h.1, h1]
  have b : (n : ℚ) < ((256 : ℤ) : ℚ) := by push_cast; linarith only [h.2, h2]
  rw [Int.cast_lt] at a b
  omega

theorem roundQ_mem_byte {x : ℚ} (h : 0 ≤ x ∧ x ≤ 255) : 0 ≤ roundQ x ∧ roundQ x ≤ 255 := by
  have hn := abs_le.1 (roundQ_near x)
  exact int_mem_byte h (by linarith only [hn.1]) (by linarith only [hn.2])

theorem roundQ_byte {x : ℚ} (h0 : 0 ≤ x) (h1 : x ≤ 1) :
    0 ≤ roundQ (255 * x) ∧ roundQ (255 * x) ≤ 255 :=
  roundQ_mem_byte ⟨by positivity, by linarith⟩

theorem truncQ_def (x : ℚ) : truncQ x = if x < 0 then -⌊-x⌋ else ⌊x⌋ := by
  show @Num.trunc ℚ ratNum x = _
  unfold Num.trunc
  simp only [rat_floor, rat_neg, rat_lt, lit0]

theorem truncQ_near {x : ℚ} (hx : 0 ≤ x) : 0 ≤ x - truncQ x ∧ x - truncQ x < 1 := by
  rw [truncQ_def, if_neg (not_lt.2 hx)]
  have h1 := Int.floor_le x
  have h2 := Int.lt_floor_add_one x
  constructor <;> linarith

theorem truncQ_mem_byte {x : ℚ} (h : 0 ≤ x ∧ x ≤ 255) : 0 ≤ truncQ x ∧ truncQ x ≤ 255 := by
  obtain ⟨a, b⟩ := truncQ_near h.1
  exact int_mem_byte h (by linarith only [b]) (by linarith only [a])

theorem truncQ_int (n : ℤ) : truncQ (n : ℚ) = n := by
  rw [truncQ_def]
  split_ifs
  · rw [← Int.cast_neg, Int.floor_intCast, neg_neg]
  · exact Int.floor_intCast n

/-- the percentage branch of `_parse_number_token` for a colour component -/
def pctComponent (v : ℚ) : ℚ := max 0 (min 255 (v * 255 / 100))
/-- the percentage branch of `_parse_number_token` for alpha -/
def pctAlpha (v : ℚ) : ℚ := max 0 (min 1 (v / 100))

theorem rangeToken_component (v : ℚ) :
    @rangeToken ℚ ratNum v true = if 0 ≤ v ∧ v ≤ 255 then .ok v else .error .valueError := by
  unfold rangeToken vErr
  simp only [if_true, Bool.and_eq_true, rat_le, lit0, lit255]

theorem rangeToken_alpha (v : ℚ) :
    @rangeToken ℚ ratNum v false =
      if 0 ≤ v ∧ v ≤ 1 then .ok v
      else if 1 < v ∧ v ≤ 100 then .ok (pctAlpha v) else .error .valueError := by
  unfold rangeToken vErr pctAlpha
  simp only [Bool.false_eq_true, if_false, Bool.and_eq_true, rat_le, rat_lt, rat_pmax, rat_pmin,
    rat_div, lit0, lit1, lit100]

section tokens
variable (E : PEnv)

/-- a token spelled `…%` (after `strip`) whose body `float()` reads as `v` -/
theorem numberToken_pct {tok body : Str} {v : ℚ} (component : Bool)
    (hs : Str.strip E.cls tok = body ++ ['%'])
    (hp : @PyFloat.parse E.cls ℚ ratNum body = .ok v) :
    @numberToken ℚ ratNum E tok component =
      .ok (if component then pctComponent v else pctAlpha v) := by
  unfold numberToken floatOrValueError pctComponent pctAlpha
  simp only [hs, endsWith_concat, if_true, List.dropLast_concat, hp, bind, Except.bind, pure,
    Except.pure, rat_pmax, rat_pmin, rat_div, rat_mul, lit0, lit1, lit100, lit255]
  cases component <;> rfl

/-- a token not ending in `%` whose text `float()` reads as `v` -/
theorem numberToken_plain {tok : Str} {v : ℚ} (component : Bool)
    (hs : Str.endsWith (Str.strip E.cls tok) ['%'] = false)
    (hp : @PyFloat.parse E.cls ℚ ratNum (Str.strip E.cls tok) = .ok v) :
    @numberToken ℚ ratNum E tok component = @rangeToken ℚ ratNum v component := by
  unfold numberToken
  simp only [hs, Bool.false_eq_true, if_false]
  unfold floatOrValueError
  simp only [hp]
  rfl

end tokens

theorem pctComponent_mem (v : ℚ) : 0 ≤ pctComponent v ∧ pctComponent v ≤ 255 := by
  unfold pctComponent
  exact ⟨le_max_left _ _, max_le (by norm_num) (min_le_left _ _)⟩

theorem pctComponent_of_mem {p : ℚ} (h0 : 0 ≤ p) (h1 : p ≤ 100) : pctComponent p = 255 * p / 100 := by
  unfold pctComponent
  rw [min_eq_right (by linarith), max_eq_right (by positivity)]
  ring

/-- `HOW TO RETURN hue.to.rgb(m1, m2, h)` -/
def css3HueToRgb (m1 m2 h : ℚ) : ℚ :=
  let h := if h < 0 then h + 1 else h
  let h := if h > 1 then h - 1 else h
  if h * 6 < 1 then m1 + (m2 - m1) * h * 6
  else if h * 2 < 1 then m2
  else if h * 3 < 2 then m1 + (m2 - m1) * (2 / 3 - h) * 6
  else m1

/-- `HOW TO RETURN hsl.to.rgb(h, s, l)` (h, s, l already normalised to fractions) -/
def css3HslToRgb (h s l : ℚ) : ℚ × ℚ × ℚ :=
  let m2 := if l ≤ 1 / 2 then l * (s + 1) else l + s - l * s
  let m1 := l * 2 - m2
  (css3HueToRgb m1 m2 (h + 1 / 3), css3HueToRgb m1 m2 h, css3HueToRgb m1 m2 (h - 1 / 3))

/-- C / JavaScript `%` on numbers: remainder with the quotient truncated towards zero -/
def tmodQ (x m : ℚ) : ℚ := x - m * (if 0 ≤ x / m then ⌊x / m⌋ else ⌈x / m⌉)

/-- CSS Color 3's hue normalisation `(((x mod 360) + 360) mod 360)` to `[0, 360)` -/
def cssNormHue (x : ℚ) : ℚ := tmodQ (tmodQ x 360 + 360) 360

/-- the colour (as three fractions of full intensity) CSS Color 3 assigns to `hsl(H, S%, L%)`,
    `s = S/100`, `l = L/100` -/
def css3Hsl (H s l : ℚ) : ℚ × ℚ × ℚ := css3HslToRgb (cssNormHue H / 360) s l

theorem hslF_eq_css3 (p q t : ℚ) : @hslF ℚ ratNum p q t = css3HueToRgb p q t := by
  unfold hslF css3HueToRgb
  simp only [rat_add, rat_sub, rat_mul, rat_div, rat_lt, rat_gt, lit0, lit1, lit2, lit3, lit6]
  -- the model compares `u` with 1/6, 1/2, 2/3; CSS compares `u·6`, `u·2`, `u·3` with 1, 1, 2
  have c6 : ∀ u : ℚ, u < 1 / 6 ↔ u * 6 < 1 := fun u => lt_div_iff₀ (by norm_num)
  have c2 : ∀ u : ℚ, u < 1 / 2 ↔ u * 2 < 1 := fun u => lt_div_iff₀ (by norm_num)
  have c3 : ∀ u : ℚ, u < 2 / 3 ↔ u * 3 < 2 := fun u => lt_div_iff₀ (by norm_num)
  simp only [c6, c2, c3, mul_right_comm _ (6 : ℚ)]

/-- the weight of `m2` in `hue.to.rgb(m1, m2, h)` once `h` is wrapped: a tent over `[0, 1]` -/
def tentW (u : ℚ) : ℚ :=
  if u * 6 < 1 then u * 6 else if u * 2 < 1 then 1 else if u * 3 < 2 then (2 / 3 - u) * 6 else 0

/-- the two wrapping steps of `hue.to.rgb` -/
def wrap1 (h : ℚ) : ℚ :=
  let h := if h < 0 then h + 1 else h
  if h > 1 then h - 1 else h

theorem css3Hue_eq (m1 m2 h : ℚ) : css3HueToRgb m1 m2 h = m1 + (m2 - m1) * tentW (wrap1 h) := by
  -- both sides depend on `h` through the wrapped hue only
  show (fun u => if u * 6 < 1 then m1 + (m2 - m1) * u * 6 else if u * 2 < 1 then m2
    else if u * 3 < 2 then m1 + (m2 - m1) * (2 / 3 - u) * 6 else m1) (wrap1 h) = _
  generalize wrap1 h = u
  unfold tentW
  beta_reduce
  split_ifs <;> ring

theorem tentW_mem {u : ℚ} (h0 : 0 ≤ u) : 0 ≤ tentW u ∧ tentW u ≤ 1 := by
  unfold tentW
  split_ifs with a b c
  · exact ⟨by linarith only [h0], a.le⟩
  · exact ⟨zero_le_one, le_rfl⟩
  · exact ⟨by linarith only [c], by linarith only [b]⟩
  · exact ⟨le_rfl, zero_le_one⟩

theorem wrap1_nonneg {h : ℚ} (h0 : -1 ≤ h) : 0 ≤ wrap1 h := by
  unfold wrap1
  simp only
  split_ifs <;> linarith

theorem css3Hue_const (m h : ℚ) : css3HueToRgb m m h = m := by
  rw [css3Hue_eq, sub_self, zero_mul, add_zero]

theorem css3Hue_between {m1 m2 h : ℚ} (hm : m1 ≤ m2) (h0 : -1 ≤ h) :
    m1 ≤ css3HueToRgb m1 m2 h ∧ css3HueToRgb m1 m2 h ≤ m2 := by
  obtain ⟨w0, w1⟩ := tentW_mem (wrap1_nonneg h0)
  have hd : 0 ≤ m2 - m1 := sub_nonneg.2 hm
  rw [css3Hue_eq]
  exact ⟨le_add_of_nonneg_right (mul_nonneg hd w0),
    by linarith [mul_le_mul_of_nonneg_left w1 hd]⟩

/-- `m2` and `m1 = 2l − m2` of §4.2.4: `0 ≤ m1 ≤ m2 ≤ 1` (`m2` is passed with its defining equation so that the
    `if` is written once) -/
theorem css3_m_range {s l : ℚ} (hs0 : 0 ≤ s) (hs1 : s ≤ 1) (hl0 : 0 ≤ l) (hl1 : l ≤ 1) :
    ∀ m2 : ℚ, m2 = (if l ≤ 1 / 2 then l * (s + 1) else l + s - l * s) →
    0 ≤ l * 2 - m2 ∧ l * 2 - m2 ≤ m2 ∧ m2 ≤ 1 := by
  intro m2 hm2
  subst hm2
  -- the products the three bounds need: 0 ≤ l·s ≤ l, s and 0 ≤ (1 - s)·(1 - l)
  have p0 := mul_nonneg hl0 hs0
  have p1 := mul_le_of_le_one_right hl0 hs1
  have p2 := mul_le_of_le_one_left hs0 hl1
  have p3 := mul_nonneg (sub_nonneg.2 hs1) (sub_nonneg.2 hl1)
  split_ifs with h
  · exact ⟨by linarith, by linarith, by linarith⟩
  · exact ⟨by linarith, by linarith, by linarith⟩

/-- CSS's HSL colours are colours: every channel is a fraction in `[0, 1]` -/
theorem css3HslToRgb_range {h s l : ℚ} (hh0 : 0 ≤ h)
    (hs0 : 0 ≤ s) (hs1 : s ≤ 1) (hl0 : 0 ≤ l) (hl1 : l ≤ 1) :
    let c := css3HslToRgb h s l
    (0 ≤ c.1 ∧ c.1 ≤ 1) ∧ (0 ≤ c.2.1 ∧ c.2.1 ≤ 1) ∧ (0 ≤ c.2.2 ∧ c.2.2 ≤ 1) := by
  obtain ⟨a, b, c⟩ := css3_m_range hs0 hs1 hl0 hl1 _ rfl
  have r := css3Hue_between (h := h + 1 / 3) b (by linarith only [hh0])
  have g := css3Hue_between (h := h) b (by linarith only [hh0])
  have bl := css3Hue_between (h := h - 1 / 3) b (by linarith only [hh0])
  exact ⟨⟨a.trans r.1, r.2.trans c⟩, ⟨a.trans g.1, g.2.trans c⟩, ⟨a.trans bl.1, bl.2.trans c⟩⟩

/-- the model's `hsl_to_rgb` core is CSS Color 3's algorithm followed by rounding to the nearest
    8-bit value (for every rational `h`, `s`, `l`; `h` in degrees) -/
theorem hslCore_eq_css3 (h s l : ℚ) :
    @hslToRgbCore ℚ ratNum h s l =
      (roundQ (255 * (css3HslToRgb (h / 360) s l).1),
       roundQ (255 * (css3HslToRgb (h / 360) s l).2.1),
       roundQ (255 * (css3HslToRgb (h / 360) s l).2.2)) := by
  -- the model tests `l < 1/2` where CSS tests `l ≤ 1/2`: at `l = 1/2` the two formulas agree
  have hm2 : (if l < 1 / 2 then l * (1 + s) else l + s - l * s) =
      (if l ≤ 1 / 2 then l * (s + 1) else l + s - l * s) := by
    split_ifs with a b b
    · ring
    · exact absurd a.le b
    · have : l = 1 / 2 := le_antisymm b (not_lt.1 a)
      subst this; ring
    · rfl
  unfold hslToRgbCore css3HslToRgb
  simp only [rat_eq, rat_mul, rat_add, rat_sub, rat_div, rat_lt, hslF_eq_css3, lit0, lit05, lit1, lit2,
    lit3, lit255, lit360, hm2, mul_comm _ (255 : ℚ), mul_comm (2 : ℚ) l]
  by_cases hs : s = 0
  · -- without saturation CSS's three channels are `l`
    subst hs
    have e : (if l ≤ 1 / 2 then l * (0 + 1) else l + 0 - l * 0) = l := by split_ifs <;> ring
    simp only [if_true, e, show l * 2 - l = l by ring, css3Hue_const]
  · simp only [if_neg hs]

theorem pmodQ_def (x m : ℚ) : pmodQ x m = x - m * ⌊x / m⌋ := HslRt.rat_pmod x m

theorem pmodQ_360_range (x : ℚ) : 0 ≤ pmodQ x 360 ∧ pmodQ x 360 < 360 := by
  rw [pmodQ_def]
  have h1 := Int.floor_le (x / 360)
  have h2 := Int.lt_floor_add_one (x / 360)
  rw [le_div_iff₀ (by norm_num)] at h1
  rw [div_lt_iff₀ (by norm_num)] at h2
  exact ⟨by linarith only [h1], by linarith only [h2]⟩

theorem tmodQ_360_range (x : ℚ) : -360 < tmodQ x 360 ∧ tmodQ x 360 < 360 := by
  unfold tmodQ
  have h1 := Int.floor_le (x / 360)
  have h2 := Int.lt_floor_add_one (x / 360)
  have h3 := Int.le_ceil (x / 360)
  have h4 := Int.ceil_lt_add_one (x / 360)
  have e : x = 360 * (x / 360) := by field_simp
  split_ifs with h
  · exact ⟨by linarith only [h1, e], by linarith only [h2, e]⟩
  · exact ⟨by linarith only [h4, e], by linarith only [h3, e]⟩

theorem tmodQ_360_nonneg {x : ℚ} (hx : 0 ≤ x) : 0 ≤ tmodQ x 360 ∧ tmodQ x 360 < 360 := by
  -- on non-negative numbers the truncated and the floored remainder agree
  have e : tmodQ x 360 = pmodQ x 360 := by unfold tmodQ; rw [if_pos (by positivity), pmodQ_def]
  rw [e]
  exact pmodQ_360_range x

theorem tmodQ_congr (x m : ℚ) : ∃ k : ℤ, x - tmodQ x m = m * k := by
  unfold tmodQ
  split_ifs
  · exact ⟨⌊x / m⌋, by ring⟩
  · exact ⟨⌈x / m⌉, by ring⟩

theorem cssNormHue_range (x : ℚ) : 0 ≤ cssNormHue x ∧ cssNormHue x < 360 := by
  unfold cssNormHue
  exact tmodQ_360_nonneg (by linarith [(tmodQ_360_range x).1])

theorem cssNormHue_congr (x : ℚ) : ∃ k : ℤ, x - cssNormHue x = 360 * k := by
  unfold cssNormHue
  obtain ⟨k1, h1⟩ := tmodQ_congr x 360
  obtain ⟨k2, h2⟩ := tmodQ_congr (tmodQ x 360 + 360) 360
  refine ⟨k1 + k2 - 1, ?_⟩
  push_cast
  linarith

/-- two numbers of `[0, 360)` that differ by a whole number of turns are equal -/
theorem eq_of_congr_360 {a b : ℚ} (ha : 0 ≤ a ∧ a < 360) (hb : 0 ≤ b ∧ b < 360) {k : ℤ}
    (h : a - b = 360 * k) : a = b := by
  have h1 : ((-1 : ℤ) : ℚ) < k := by push_cast; linarith only [ha.1, hb.2, h]
  have h2 : (k : ℚ) < ((1 : ℤ) : ℚ) := by push_cast; linarith only [ha.2, hb.1, h]
  rw [Int.cast_lt] at h1 h2
  have : k = 0 := by omega
  rw [this, Int.cast_zero, mul_zero] at h
  exact sub_eq_zero.1 h

theorem pmodQ_360_idem (x : ℚ) : pmodQ (pmodQ x 360) 360 = pmodQ x 360 :=
  eq_of_congr_360 (pmodQ_360_range _) (pmodQ_360_range x) (k := -⌊pmodQ x 360 / 360⌋)
    (by rw [pmodQ_def (pmodQ x 360)]; push_cast; ring)

/-- Python's `float % 360` is CSS's hue normalisation, for every rational hue -/
theorem pmodQ_eq_cssNormHue (x : ℚ) : pmodQ x 360 = cssNormHue x := by
  obtain ⟨k, hk⟩ := cssNormHue_congr x
  apply eq_of_congr_360 (pmodQ_360_range x) (cssNormHue_range x) (k := k - ⌊x / 360⌋)
  rw [pmodQ_def]
  push_cast
  linarith

theorem rat_mem_unit (a : ℚ) :
    (@Num.le ℚ ratNum (0.0 : ℚ) a && @Num.le ℚ ratNum a (1.0 : ℚ)) = true ↔ 0 ≤ a ∧ a ≤ 1 := by
  rw [Bool.and_eq_true, rat_le, rat_le, lit0, lit1]

theorem hslInRange_rat (s l : ℚ) :
    @hslInRange ℚ ratNum s l = true ↔ (0 ≤ s ∧ s ≤ 1) ∧ (0 ≤ l ∧ l ≤ 1) := by
  unfold hslInRange
  simp only [Bool.and_eq_true, rat_le, lit0, lit1]

theorem hslFinish_rat {h s l : ℚ} (hs0 : 0 ≤ s) (hs1 : s ≤ 1) (hl0 : 0 ≤ l) (hl1 : l ≤ 1) :
    @hslFinish ℚ ratNum h s l = .ok (@hslToRgbCore ℚ ratNum h s l) := by
  unfold hslFinish
  rw [if_pos ((hslInRange_rat s l).2 ⟨⟨hs0, hs1⟩, ⟨hl0, hl1⟩⟩)]

/-- `rgba_to_rgb` on valid input: source-over compositing, each channel rounded to nearest. The model writes the
    blend `f * a + k * (1 - a)`; it is stated as `a * f + (1 - a) * k`, the form of the bounds that use it -/
theorem rgbaToRgb_rat {r g b : ℤ} {a : ℚ} {bg : RGB} (hv : validRgb (r, g, b) = true)
    (ha0 : 0 ≤ a) (ha1 : a ≤ 1) (hbg : validRgb bg = true) :
    @rgbaToRgb ℚ ratNum r g b a bg =
      .ok (roundQ (a * r + (1 - a) * bg.1), roundQ (a * g + (1 - a) * bg.2.1),
           roundQ (a * b + (1 - a) * bg.2.2)) := by
  unfold rgbaToRgb
  have hA := (rat_mem_unit a).2 ⟨ha0, ha1⟩
  simp only [hv, hbg, hA, Bool.not_true, Bool.false_eq_true, if_false]
  simp only [rat_mul, rat_add, rat_sub, rat_ofInt, lit1, mul_comm]

/-- the compositing step of `hsla_to_rgb`, after the HSL colour is known -/
theorem hslaFinish_rat {h s l a : ℚ} (bg : Option RGB) (hs0 : 0 ≤ s) (hs1 : s ≤ 1) (hl0 : 0 ≤ l)
    (hl1 : l ≤ 1) (ha0 : 0 ≤ a) (ha1 : a ≤ 1) :
    @hslaFinish ℚ ratNum h s l a bg =
      .ok (let c := @hslToRgbCore ℚ ratNum (pmodQ h 360) s l
           let k : RGB := bg.getD (255, 255, 255)
           if 1 ≤ a then c
           else (truncQ (a * c.1 + (1 - a) * k.1), truncQ (a * c.2.1 + (1 - a) * k.2.1),
                 truncQ (a * c.2.2 + (1 - a) * k.2.2))) := by
  have hA := (rat_mem_unit a).2 ⟨ha0, ha1⟩
  have hR := (hslInRange_rat s l).2 ⟨⟨hs0, hs1⟩, ⟨hl0, hl1⟩⟩
  unfold hslaFinish
  -- the range test passes (this step reads `1.0` as the model writes it, the next one as `1`)
  simp only [hA, hR, Bool.and_self, Bool.not_true, Bool.false_eq_true, if_false]
  simp only [lit360, show @Num.pmod ℚ ratNum h 360 = pmodQ h 360 from rfl, hslFinish_rat hs0 hs1 hl0 hl1,
    bind, Except.bind, pure, Except.pure, rat_ge, lit1, rat_mul, rat_add, rat_sub, rat_ofInt]
  split_ifs
  · rfl
  · cases bg <;> rfl

/-- the model's colour for hue `H` (any rational), in-range `s`, `l`: valid, each channel a nearest integer to
    255 × CSS's value -/
theorem hslOfHue_spec (H : ℚ) {s l : ℚ} (hs0 : 0 ≤ s) (hs1 : s ≤ 1) (hl0 : 0 ≤ l) (hl1 : l ≤ 1) :
    ∃ R G B : ℤ, @hslToRgbCore ℚ ratNum (pmodQ H 360) s l = (R, G, B) ∧
      validRgb (R, G, B) = true ∧
      |(R : ℚ) - 255 * (css3Hsl H s l).1| ≤ 1 / 2 ∧ |(G : ℚ) - 255 * (css3Hsl H s l).2.1| ≤ 1 / 2 ∧
      |(B : ℚ) - 255 * (css3Hsl H s l).2.2| ≤ 1 / 2 := by
  obtain ⟨r, g, b⟩ := css3HslToRgb_range
    (div_nonneg (cssNormHue_range H).1 (by norm_num : (0 : ℚ) ≤ 360)) hs0 hs1 hl0 hl1
  rw [hslCore_eq_css3, pmodQ_eq_cssNormHue]
  exact ⟨_, _, _, rfl, (validRgb_iff _).2 ⟨roundQ_byte r.1 r.2, roundQ_byte g.1 g.2, roundQ_byte b.1 b.2⟩,
    roundQ_near _, roundQ_near _, roundQ_near _⟩

theorem hslSeq_floats (E : PEnv) (H : ℚ) {s l : ℚ} (hs0 : 0 ≤ s) (hs1 : s ≤ 1) (hl0 : 0 ≤ l)
    (hl1 : l ≤ 1) :
    @hslSeqToRgb ℚ ratNum E (.float H) (.float s) (.float l) =
      .ok (@hslToRgbCore ℚ ratNum (pmodQ H 360) s l) :=
  (@hslSeqToRgb_floats ℚ ratNum E H s l).trans (by rw [lit360]; exact hslFinish_rat hs0 hs1 hl0 hl1)

/-- moving the foreground by `d` moves a source-over blend by at most `d` -/
theorem blend_perturb {a f F k d : ℚ} (ha0 : 0 ≤ a) (ha1 : a ≤ 1) (hf : |f - F| ≤ d) :
    |(a * f + (1 - a) * k) - (a * F + (1 - a) * k)| ≤ d := by
  have e : (a * f + (1 - a) * k) - (a * F + (1 - a) * k) = a * (f - F) := by ring
  rw [e, abs_mul, abs_of_nonneg ha0]
  exact (mul_le_of_le_one_left (abs_nonneg _) ha1).trans hf

theorem blend_tri {a f F k out d : ℚ} (ha0 : 0 ≤ a) (ha1 : a ≤ 1) (hf : |f - F| ≤ d) :
    |out - (a * F + (1 - a) * k)| ≤ |out - (a * f + (1 - a) * k)| + d :=
  (abs_sub_le out (a * f + (1 - a) * k) (a * F + (1 - a) * k)).trans
    (add_le_add_right (blend_perturb ha0 ha1 hf) |out - (a * f + (1 - a) * k)|)

/-- truncation (`0 ≤ exact − out < 1`) of a blend whose foreground is within 1/2 of `F` is within 3/2 of the
    blend of `F`: 1 + 1/2 -/
theorem trunc_blend_within {a f F k out : ℚ} (ha0 : 0 ≤ a) (ha1 : a ≤ 1) (hf : |f - F| ≤ 1 / 2)
    (h0 : 0 ≤ a * f + (1 - a) * k - out) (h1 : a * f + (1 - a) * k - out < 1) :
    |out - (a * F + (1 - a) * k)| < 3 / 2 :=
  (blend_tri ha0 ha1 hf).trans_lt (by rw [abs_sub_comm, abs_of_nonneg h0]; linarith only [h1])

/-- rounding (≤ 1/2) a blend whose foreground was itself rounded (≤ 1/2) is within 1 -/
theorem round_blend_within {a c r k R : ℚ} (ha0 : 0 ≤ a) (ha1 : a ≤ 1) (hr : |r - c| ≤ 1 / 2)
    (hR : |R - (a * r + (1 - a) * k)| ≤ 1 / 2) : |R - (a * c + (1 - a) * k)| ≤ 1 :=
  (blend_tri ha0 ha1 hr).trans (by linarith only [hR])

end Cm.ParseSpec
