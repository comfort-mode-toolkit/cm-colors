import CmModel.CliErr
import CmProofs.CliRule
/-!
# The traversal of the CSS rewriter: nodes, the top level, one file

The traversal's equations are stated with `>>=`, and each kind of statement about a traversal has one lemma about `>>=`
(`bind_eq_ok`, `Respected.bind`, `NodeRes.bind`, `ResRel.bind`): lifting a fact about `processRule` to the tree is a line per case.
Two relations between trees: `sameShapeNode(s)` (equal up to declaration values), `relNode(s)` (rule by rule, by a given relation).
The top level: `RootInv` ties the pre-parsed blocks to the rules they came from (`RootKeys`, its weaker form in the model, is kept
alike); pre-pass, post-pass, one file (`processFile_spec`).
Independence from the incoming counters (`processFile_indep`), lifted from `processRule_rel`.
-/
namespace Cm.Cli

/-- `node.lower_at_keyword in ("media", "supports")` -/
def isNested (kw : Str) : Bool := kw = "media".toList || kw = "supports".toList

/-- `tinycss2.serialize` of the rule list does not raise -/
def nodesSerialisable (ns : List Node) : Bool := ns.all fun n => match n with | .other _ ok => ok | _ => true

/-- the key a top-level node has a pre-parsed block under, if it is a `:root` / `html` rule -/
def topOf (n : Node) (i : Nat) : Option Nat :=
  match n with | .rule sel _ => if isRootSel sel then some i else none | _ => none

theorem processNode_rule (env : CliEnv) (cfg : Cfg) (top : Option Nat) (st : St) (sel : Str) (items : List Item) :
    processNode env cfg top st (.rule sel items) =
      processRule env cfg top sel items st >>= fun (its, st') => pure (.rule sel its, st') := by
  simp only [processNode]

theorem processNode_at (env : CliEnv) (cfg : Cfg) (top : Option Nat) (st : St) (kw pre : Str) (body : List Node) :
    processNode env cfg top st (.at kw pre body) =
      if isNested kw then
        processNodes env cfg st body >>= fun (body', st') =>
          if nodesSerialisable body' then pure (.at kw pre body', st') else throw st'
      else pure (.at kw pre body, st) := by
  simp only [processNode]; rfl

theorem processNode_other (env : CliEnv) (cfg : Cfg) (top : Option Nat) (st : St) (t : Str) (ok : Bool) :
    processNode env cfg top st (.other t ok) = .ok (.other t ok, st) := by
  simp only [processNode]; rfl

theorem processNodes_nil (env : CliEnv) (cfg : Cfg) (st : St) : processNodes env cfg st [] = .ok ([], st) := by
  simp only [processNodes]; rfl

theorem processNodes_cons (env : CliEnv) (cfg : Cfg) (st : St) (n : Node) (ns : List Node) :
    processNodes env cfg st (n :: ns) =
      processNode env cfg none st n >>= fun (n', st1) =>
        processNodes env cfg st1 ns >>= fun (ns', st2) => pure (n' :: ns', st2) := by
  simp only [processNodes]

theorem processTop_nil (env : CliEnv) (cfg : Cfg) (st : St) (i : Nat) : processTop env cfg [] i st = .ok ([], st) := by
  simp only [processTop]; rfl

theorem processTop_cons (env : CliEnv) (cfg : Cfg) (st : St) (n : Node) (ns : List Node) (i : Nat) :
    processTop env cfg (n :: ns) i st =
      processNode env cfg (topOf n i) st n >>= fun (n', st1) =>
        processTop env cfg ns (i + 1) st1 >>= fun (ns', st2) => pure (n' :: ns', st2) := by
  simp only [processTop]; rfl

theorem bind_eq_ok {ε α β : Type} {x : Except ε α} {g : α → Except ε β} {b : β} (h : x >>= g = .ok b) :
    ∃ a, x = .ok a ∧ g a = .ok b := by
  cases x with
  | error e => cases h
  | ok a => exact ⟨a, rfl, h⟩

theorem processNode_at_ok {env : CliEnv} {cfg : Cfg} {top : Option Nat} {st st' : St} {kw pre : Str} {body : List Node} {n' : Node}
    (h : processNode env cfg top st (.at kw pre body) = .ok (n', st')) :
    (isNested kw = false ∧ n' = .at kw pre body ∧ st' = st) ∨
    (isNested kw = true ∧ ∃ body', processNodes env cfg st body = .ok (body', st') ∧ n' = .at kw pre body') := by
  rw [processNode_at] at h
  split at h
  · next hk =>
    obtain ⟨⟨body', st1⟩, hb, h⟩ := bind_eq_ok h
    dsimp only at h
    split at h
    · cases h; exact .inr ⟨hk, body', hb, rfl⟩
    · cases h
  · next hk => cases h; exact .inl ⟨by simpa using hk, rfl, rfl⟩

/-- a reflexive, transitive relation on states that every `processRule` call respects — hence every traversal (`Respected.node`,
    `.nodes`, `.top`), whether it ends in a result or an error -/
structure Respected (env : CliEnv) (cfg : Cfg) (R : St → St → Prop) : Prop where
  refl : ∀ st, R st st
  trans : ∀ {a b c}, R a b → R b c → R a c
  rule : ∀ top sel items st, R st (resSt (processRule env cfg top sel items st))

theorem Respected.bind {env : CliEnv} {cfg : Cfg} {R : St → St → Prop} (h : Respected env cfg R) {α β : Type} {st : St}
    {x : Except St (α × St)} {g : α × St → Except St (β × St)} (hx : R st (resSt x))
    (hg : ∀ a st1, R st1 (resSt (g (a, st1)))) : R st (resSt (x >>= g)) := by
  cases x with
  | error e => exact hx
  | ok p => exact h.trans hx (hg p.1 p.2)

mutual
  theorem Respected.node {env : CliEnv} {cfg : Cfg} {R : St → St → Prop} (h : Respected env cfg R) (top : Option Nat)
      (st : St) : (n : Node) → R st (resSt (processNode env cfg top st n))
    | .rule sel items => by
      rw [processNode_rule]
      exact h.bind (h.rule top sel items st) fun _ _ => h.refl _
    | .at kw pre body => by
      rw [processNode_at]
      split
      · exact h.bind (h.nodes st body) fun _ _ => by dsimp only; split <;> exact h.refl _
      · exact h.refl st
    | .other t ok => by rw [processNode_other]; exact h.refl st
  theorem Respected.nodes {env : CliEnv} {cfg : Cfg} {R : St → St → Prop} (h : Respected env cfg R) (st : St) :
      (ns : List Node) → R st (resSt (processNodes env cfg st ns))
    | [] => by rw [processNodes_nil]; exact h.refl st
    | n :: ns => by
      rw [processNodes_cons]
      exact h.bind (h.node none st n) fun _ st1 => h.bind (h.nodes st1 ns) fun _ _ => h.refl _
end

theorem Respected.top {env : CliEnv} {cfg : Cfg} {R : St → St → Prop} (h : Respected env cfg R) :
    (ns : List Node) → (i : Nat) → (st : St) → R st (resSt (processTop env cfg ns i st))
  | [], i, st => by rw [processTop_nil]; exact h.refl st
  | n :: ns, i, st => by
    rw [processTop_cons]
    exact h.bind (h.node (topOf n i) st n) fun _ st1 => h.bind (h.top ns (i + 1) st1) fun _ _ => h.refl _

theorem rootsLe_respected (env : CliEnv) (cfg : Cfg) : Respected env cfg fun a b => RootsLe a.rootDecls b.rootDecls :=
  ⟨fun _ => RootsLe.refl _, RootsLe.trans, processRule_rootsLe env cfg⟩

mutual
  /-- number of rules with a text colour the tool classifies in a node -/
  def countNode : Node → Nat
    | .rule _ items => countItems items
    | .at kw _ body => if isNested kw then countNodes body else 0
    | .other _ _ => 0
  def countNodes : List Node → Nat
    | [] => 0
    | n :: ns => countNode n + countNodes ns
end

mutual
  /-- equal up to declaration values -/
  def sameShapeNode : Node → Node → Prop
    | .rule s a, .rule s' b => s = s' ∧ sameShape a b
    | .at k p b, .at k' p' b' => k = k' ∧ p = p' ∧ sameShapeNodes b b'
    | .other t ok, .other t' ok' => t = t' ∧ ok = ok'
    | _, _ => False
  def sameShapeNodes : List Node → List Node → Prop
    | [], [] => True
    | a :: as, b :: bs => sameShapeNode a b ∧ sameShapeNodes as bs
    | _, _ => False
end

theorem sameShapeNode_rule {s s' : Str} {a b : List Item} :
    sameShapeNode (.rule s a) (.rule s' b) ↔ s = s' ∧ sameShape a b := by simp only [sameShapeNode]
theorem sameShapeNode_at {k p k' p' : Str} {b b' : List Node} :
    sameShapeNode (.at k p b) (.at k' p' b') ↔ k = k' ∧ p = p' ∧ sameShapeNodes b b' := by simp only [sameShapeNode]
theorem sameShapeNode_other {t t' : Str} {ok ok' : Bool} :
    sameShapeNode (.other t ok) (.other t' ok') ↔ t = t' ∧ ok = ok' := by simp only [sameShapeNode]
theorem sameShapeNodes_nil : sameShapeNodes [] [] := by simp only [sameShapeNodes]
theorem sameShapeNodes_cons {a b : Node} {as bs : List Node} :
    sameShapeNodes (a :: as) (b :: bs) ↔ sameShapeNode a b ∧ sameShapeNodes as bs := by simp only [sameShapeNodes]

mutual
  theorem sameShapeNode_refl : (n : Node) → sameShapeNode n n
    | .rule _ a => sameShapeNode_rule.2 ⟨rfl, sameShape_refl a⟩
    | .at _ _ b => sameShapeNode_at.2 ⟨rfl, rfl, sameShapeNodes_refl b⟩
    | .other _ _ => sameShapeNode_other.2 ⟨rfl, rfl⟩
  theorem sameShapeNodes_refl : (ns : List Node) → sameShapeNodes ns ns
    | [] => sameShapeNodes_nil
    | n :: ns => sameShapeNodes_cons.2 ⟨sameShapeNode_refl n, sameShapeNodes_refl ns⟩
end

theorem sameShapeNodes_length : {a b : List Node} → sameShapeNodes a b → a.length = b.length
  | [], [], _ => rfl
  | _ :: _, _ :: _, h => by
    rw [List.length_cons, List.length_cons, sameShapeNodes_length (sameShapeNodes_cons.1 h).2]
  | [], _ :: _, h | _ :: _, [], h => by simp only [sameShapeNodes] at h

theorem sameShapeNodes_getElem?_rule : (ns ns' : List Node) → sameShapeNodes ns ns' →
    ∀ (i : Nat) (sel : Str) (a : List Item), ns[i]? = some (.rule sel a) → ∃ b, ns'[i]? = some (.rule sel b)
  | [], [], _ => by intro i sel a h; simp at h
  | x :: xs, y :: ys, h => by
    obtain ⟨h1, h2⟩ := sameShapeNodes_cons.1 h
    intro i sel a hi
    cases i with
    | zero =>
      simp at hi; subst hi
      cases y with
      | rule s' b => exact ⟨b, by rw [(sameShapeNode_rule.1 h1).1]; rfl⟩
      | «at» k p b => simp only [sameShapeNode] at h1
      | other t ok => simp only [sameShapeNode] at h1
    | succ j =>
      obtain ⟨b, hb⟩ := sameShapeNodes_getElem?_rule xs ys h2 j sel a (by simpa using hi)
      exact ⟨b, by simpa using hb⟩
  | [], _ :: _, h | _ :: _, [], h => by simp only [sameShapeNodes] at h

mutual
  /-- `n'` is `n` with every rule the tool visits related by `P` -/
  def relNode (P : Str → List Item → List Item → Prop) : Node → Node → Prop
    | .rule s a, .rule s' b => s = s' ∧ P s a b
    | .at k p b, .at k' p' b' => k = k' ∧ p = p' ∧ ((isNested k = true ∧ relNodes P b b') ∨ (isNested k = false ∧ b = b'))
    | .other t ok, .other t' ok' => t = t' ∧ ok = ok'
    | _, _ => False
  def relNodes (P : Str → List Item → List Item → Prop) : List Node → List Node → Prop
    | [], [] => True
    | a :: as, b :: bs => relNode P a b ∧ relNodes P as bs
    | _, _ => False
end

theorem relNode_rule {P : Str → List Item → List Item → Prop} {s s' : Str} {a b : List Item} :
    relNode P (.rule s a) (.rule s' b) ↔ s = s' ∧ P s a b := by simp only [relNode]
theorem relNode_at {P : Str → List Item → List Item → Prop} {k p k' p' : Str} {b b' : List Node} :
    relNode P (.at k p b) (.at k' p' b') ↔
      k = k' ∧ p = p' ∧ ((isNested k = true ∧ relNodes P b b') ∨ (isNested k = false ∧ b = b')) := by
  simp only [relNode]
theorem relNode_other {P : Str → List Item → List Item → Prop} {t t' : Str} {ok ok' : Bool} :
    relNode P (.other t ok) (.other t' ok') ↔ t = t' ∧ ok = ok' := by simp only [relNode]
theorem relNodes_nil {P : Str → List Item → List Item → Prop} : relNodes P [] [] := by simp only [relNodes]
theorem relNodes_cons {P : Str → List Item → List Item → Prop} {a b : Node} {as bs : List Node} :
    relNodes P (a :: as) (b :: bs) ↔ relNode P a b ∧ relNodes P as bs := by simp only [relNodes]

mutual
  theorem relNode_mono {P Q : Str → List Item → List Item → Prop} (hPQ : ∀ s a b, P s a b → Q s a b) :
      (n n' : Node) → relNode P n n' → relNode Q n n'
    | .rule s a, .rule s' b, h => by
      have := relNode_rule.1 h; exact relNode_rule.2 ⟨this.1, hPQ _ _ _ this.2⟩
    | .at k p b, .at k' p' b', h => by
      obtain ⟨h1, h2, h3⟩ := relNode_at.1 h
      refine relNode_at.2 ⟨h1, h2, ?_⟩
      rcases h3 with ⟨hk, h3⟩ | h3
      · exact .inl ⟨hk, relNodes_mono hPQ b b' h3⟩
      · exact .inr h3
    | .other t ok, .other t' ok', h => relNode_other.2 (relNode_other.1 h)
    | .rule _ _, .at _ _ _, h | .rule _ _, .other _ _, h | .at _ _ _, .rule _ _, h | .at _ _ _, .other _ _, h
    | .other _ _, .rule _ _, h | .other _ _, .at _ _ _, h => by simp only [relNode] at h
  theorem relNodes_mono {P Q : Str → List Item → List Item → Prop} (hPQ : ∀ s a b, P s a b → Q s a b) :
      (ns ns' : List Node) → relNodes P ns ns' → relNodes Q ns ns'
    | [], [], _ => relNodes_nil
    | a :: as, b :: bs, h => by
      have := relNodes_cons.1 h
      exact relNodes_cons.2 ⟨relNode_mono hPQ a b this.1, relNodes_mono hPQ as bs this.2⟩
    | [], _ :: _, h | _ :: _, [], h => by simp only [relNodes] at h
end

mutual
  /-- selectors of the rules with a text colour the tool classifies in a node, in document order -/
  def colourSelsNode : Node → List Str
    | .rule sel items => if hasColor items then [sel] else []
    | .at kw _ body => if isNested kw then colourSelsNodes body else []
    | .other _ _ => []
  def colourSelsNodes : List Node → List Str
    | [] => []
    | n :: ns => colourSelsNode n ++ colourSelsNodes ns
end

/-- the two detail lists grew at the front, by entries whose selectors are (oldest first) a subsequence of `sels` -/
structure Listed (sels : List Str) (st st' : St) : Prop where
  failed : ∃ l : List Failed, st'.failedDetails = l ++ st.failedDetails ∧ (l.reverse.map (·.selector)).Sublist sels
  fixed : ∃ l : List Fixed, st'.fixedDetails = l ++ st.fixedDetails ∧ (l.reverse.map (·.selector)).Sublist sels

theorem Listed.refl (sels : List Str) (st : St) : Listed sels st st :=
  ⟨⟨[], rfl, List.nil_sublist _⟩, ⟨[], rfl, List.nil_sublist _⟩⟩

theorem Listed.trans {s1 s2 : List Str} {a b c : St} (h : Listed s1 a b) (h' : Listed s2 b c) : Listed (s1 ++ s2) a c := by
  obtain ⟨⟨l1, e1, u1⟩, ⟨m1, f1, v1⟩⟩ := h
  obtain ⟨⟨l2, e2, u2⟩, ⟨m2, f2, v2⟩⟩ := h'
  refine ⟨⟨l2 ++ l1, by rw [e2, e1, List.append_assoc], ?_⟩, ⟨m2 ++ m1, by rw [f2, f1, List.append_assoc], ?_⟩⟩
  · rw [List.reverse_append, List.map_append]; exact List.Sublist.append u1 u2
  · rw [List.reverse_append, List.map_append]; exact List.Sublist.append v1 v2

theorem Listed.weaken {s1 : List Str} (s2 : List Str) {a b : St} (h : Listed s1 a b) : Listed (s1 ++ s2) a b := by
  obtain ⟨⟨l1, e1, u1⟩, ⟨m1, f1, v1⟩⟩ := h
  exact ⟨⟨l1, e1, u1.trans (List.sublist_append_left _ _)⟩, ⟨m1, f1, v1.trans (List.sublist_append_left _ _)⟩⟩

theorem Listed.congr {sels : List Str} {a b b' : St} (h : Listed sels a b) (e : SameCounts b b') : Listed sels a b' := by
  obtain ⟨⟨l1, e1, u1⟩, ⟨m1, f1, v1⟩⟩ := h
  exact ⟨⟨l1, by rw [← e.failedDetails, e1], u1⟩, ⟨m1, by rw [← e.fixedDetails, f1], v1⟩⟩

mutual
  theorem colourSelsNode_length : (n : Node) → (colourSelsNode n).length = countNode n
    | .rule sel items => by simp only [colourSelsNode, countNode, countItems]; split <;> rfl
    | .at kw pre body => by
      simp only [colourSelsNode, countNode]; split
      · exact colourSelsNodes_length body
      · rfl
    | .other _ _ => by simp only [colourSelsNode, countNode]; rfl
  theorem colourSelsNodes_length : (ns : List Node) → (colourSelsNodes ns).length = countNodes ns
    | [] => by simp only [colourSelsNodes, countNodes]; rfl
    | n :: ns => by
      simp only [colourSelsNodes, countNodes, List.length_append]
      rw [colourSelsNode_length n, colourSelsNodes_length ns]
end

/-- what processing a node (list) whose rules with a text colour have the selectors `sels` yields: on success a result of the same
    shape (`same`) and exactly `sels.length` more classified rules, on failure at most that many; either way the detail lists name a
    subsequence of `sels` -/
def NodeRes {α : Type} (sels : List Str) (st : St) (same : α → Prop) : Except St (α × St) → Prop
  | .ok (a, st') => same a ∧ Grew sels.length st st' ∧ Listed sels st st'
  | .error st' => (∃ k, k ≤ sels.length ∧ Grew k st st') ∧ Listed sels st st'

theorem NodeRes.listed {α : Type} {sels : List Str} {st : St} {same : α → Prop} :
    {res : Except St (α × St)} → NodeRes sels st same res → Listed sels st (resSt res)
  | .ok _, h => h.2.2
  | .error _, h => h.2

theorem NodeRes.pure {α : Type} (st : St) {same : α → Prop} {a : α} (h : same a) : NodeRes [] st same (.ok (a, st)) :=
  ⟨h, Grew.refl st, Listed.refl _ _⟩

/-- `hs`: so that the caller's list need not be an append syntactically; `h2` may use that `x` succeeded (`processTop_spec` does) -/
theorem NodeRes.bind {α β : Type} {s1 s2 sels : List Str} {st : St} {same : α → Prop} {same' : β → Prop}
    {x : Except St (α × St)} {g : α × St → Except St (β × St)} (h1 : NodeRes s1 st same x) (hs : s1 ++ s2 = sels)
    (h2 : ∀ a st1, x = .ok (a, st1) → same a → NodeRes s2 st1 same' (g (a, st1))) : NodeRes sels st same' (x >>= g) := by
  subst hs
  cases x with
  | error e =>
    obtain ⟨⟨k, hk, hg⟩, hl⟩ := h1
    exact ⟨⟨k, by rw [List.length_append]; omega, hg⟩, hl.weaken _⟩
  | ok p =>
    obtain ⟨hs, hg1, hl1⟩ := h1
    have h2 := h2 p.1 p.2 rfl hs
    show NodeRes _ _ _ (g p)
    generalize g p = y at h2
    cases y with
    | error e =>
      obtain ⟨⟨k, hk, hg⟩, hl⟩ := h2
      exact ⟨⟨s1.length + k, by rw [List.length_append]; omega, hg1.trans hg⟩, hl1.trans hl⟩
    | ok q => exact ⟨h2.1, by rw [List.length_append]; exact hg1.trans h2.2.1, hl1.trans h2.2.2⟩

theorem processRule_nodeRes (env : CliEnv) (cfg : Cfg) (top : Option Nat) (sel : Str) (items0 : List Item) (st : St) :
    NodeRes (if hasColor (seenItems top items0 st) then [sel] else []) st (sameShape (seenItems top items0 st))
      (processRule env cfg top sel items0 st) := by
  rw [processRule_eq_verdict]
  unfold hasColor
  cases lastDecl (seenItems top items0 st) "color".toList with
  | none => exact .pure st (sameShape_refl _)
  | some p =>
    obtain ⟨ci, cd⟩ := p
    dsimp only
    cases verdict (evalOf env cfg st (seenItems top items0 st) cd) with
    | accessible =>
      exact ⟨sameShape_refl _, grew_accSt st, ⟨[], rfl, List.nil_sublist _⟩, ⟨[], rfl, List.nil_sublist _⟩⟩
    | failed inv => exact ⟨sameShape_refl _, grew_failSt st _, ⟨[_], rfl, by simp⟩, ⟨[], rfl, List.nil_sublist _⟩⟩
    | tuned =>
      have hg := tunedStep_grew env cfg top sel items0 st ci cd
      have hl : Listed [sel] st (tuneSt st (fixedOf env cfg st sel (seenItems top items0 st) cd)) :=
        ⟨⟨[], rfl, List.nil_sublist _⟩, ⟨[_], rfl, by simp [fixedOf]⟩⟩
      replace hl := hl.congr (tunedStep_sameCounts env cfg top sel items0 st ci cd).symm
      cases hres : tunedStep env cfg top sel items0 st ci cd with
      | error e => rw [hres] at hg hl; exact ⟨⟨1, Nat.le_refl _, hg⟩, hl⟩
      | ok q =>
        obtain ⟨items', st'⟩ := q
        rw [hres] at hg hl
        exact ⟨tunedStep_shape env cfg top sel items0 st ci cd items' st' hres, hg, hl⟩

mutual
  /-- the hypothesis: a top-level `:root` / `html` rule is judged on its shared block, which earlier rules may have rewritten;
      nested rules are judged on their own list -/
  theorem processNode_spec (env : CliEnv) (cfg : Cfg) (top : Option Nat) (st : St) : (n : Node) →
      (∀ sel items0, n = .rule sel items0 → sameShape items0 (seenItems top items0 st)) →
      NodeRes (colourSelsNode n) st (sameShapeNode n) (processNode env cfg top st n)
    | .rule sel items, hseen => by
      have hs := hseen sel items rfl
      rw [processNode_rule]
      simp only [colourSelsNode]
      rw [hasColor_sameShape hs]
      exact (processRule_nodeRes env cfg top sel items st).bind (List.append_nil _) fun _ _ _ h =>
        .pure _ (sameShapeNode_rule.2 ⟨rfl, sameShape_trans hs h⟩)
    | .at kw pre body, _ => by
      rw [processNode_at]
      simp only [colourSelsNode]
      split
      · refine (processNodes_spec env cfg st body).bind (List.append_nil _) fun body' st' _ hs => ?_
        dsimp only
        split
        · exact .pure _ (sameShapeNode_at.2 ⟨rfl, rfl, hs⟩)
        · exact ⟨⟨0, Nat.le_refl _, Grew.refl _⟩, Listed.refl _ _⟩
      · exact .pure st (sameShapeNode_refl _)
    | .other t ok, _ => by
      rw [processNode_other]; simp only [colourSelsNode]; exact .pure st (sameShapeNode_refl _)
  theorem processNodes_spec (env : CliEnv) (cfg : Cfg) (st : St) : (ns : List Node) →
      NodeRes (colourSelsNodes ns) st (sameShapeNodes ns) (processNodes env cfg st ns)
    | [] => by rw [processNodes_nil]; simp only [colourSelsNodes]; exact .pure st sameShapeNodes_nil
    | n :: ns => by
      rw [processNodes_cons]
      simp only [colourSelsNodes]
      exact (processNode_spec env cfg none st n fun _ _ _ => sameShape_refl _).bind rfl fun _ st1 _ h1 =>
        (processNodes_spec env cfg st1 ns).bind (List.append_nil _) fun _ _ _ h2 =>
          .pure _ (sameShapeNodes_cons.2 ⟨h1, h2⟩)
end

theorem processNodes_listed (env : CliEnv) (cfg : Cfg) (st : St) : (ns : List Node) →
      Listed (colourSelsNodes ns) st (resSt (processNodes env cfg st ns)) :=
  fun ns => (processNodes_spec env cfg st ns).listed

/-- every pre-parsed block has the shape of the rule it was parsed from (`off` = index of `ns`' head) -/
def RootInv (ns : List Node) (off : Nat) (roots : List (Nat × List Item)) : Prop :=
  ∀ kv ∈ roots, ∀ (j : Nat) (sel : Str) (items : List Item), kv.1 = off + j → ns[j]? = some (.rule sel items) →
    sameShape items kv.2

theorem RootInv.mono {ns : List Node} {off : Nat} {r r' : List (Nat × List Item)}
    (h : RootInv ns off r) (hle : RootsLe r r') : RootInv ns off r' := by
  intro kv' hkv' j sel items hj hn
  obtain ⟨kv, hkv, e, hs⟩ := hle.shape kv' hkv'
  exact sameShape_trans (h kv hkv j sel items (by omega) hn) hs

theorem RootInv.step {n : Node} {ns : List Node} {off : Nat} {r r' : List (Nat × List Item)}
    (h : RootInv (n :: ns) off r) (hle : RootsLe r r') : RootInv ns (off + 1) r' :=
  fun kv hkv j sel items hj hn => h.mono hle kv hkv (j + 1) sel items (by omega) (by simpa using hn)

theorem RootInv.seenTop {n : Node} {ns : List Node} {i : Nat} {st : St} (h : RootInv (n :: ns) i st.rootDecls) :
    ∀ sel items0, n = .rule sel items0 → sameShape items0 (seenItems (topOf n i) items0 st) := by
  intro sel items0 hn
  subst hn
  simp only [topOf]
  split
  · rw [seenItems_some]
    cases hg : getRoot st i with
    | none => exact sameShape_refl _
    | some its => exact h _ (getRoot_mem hg) 0 sel items0 rfl rfl
  · exact sameShape_refl _

theorem processTop_spec (env : CliEnv) (cfg : Cfg) : (ns : List Node) → (i : Nat) → (st : St) →
    RootInv ns i st.rootDecls →
    NodeRes (colourSelsNodes ns) st (sameShapeNodes ns) (processTop env cfg ns i st)
  | [], i, st, _ => by rw [processTop_nil]; simp only [colourSelsNodes]; exact .pure st sameShapeNodes_nil
  | n :: ns, i, st, hinv => by
    rw [processTop_cons]
    simp only [colourSelsNodes]
    refine (processNode_spec env cfg (topOf n i) st n hinv.seenTop).bind rfl fun _ st1 e1 h1 => ?_
    have hle := (rootsLe_respected env cfg).node (topOf n i) st n
    rw [e1] at hle
    exact (processTop_spec env cfg ns (i + 1) st1 (hinv.step hle)).bind (List.append_nil _) fun _ _ _ h2 =>
      .pure _ (sameShapeNodes_cons.2 ⟨h1, h2⟩)

/-- the declaration list the pre-pass keeps for a node: that of a `:root` / `html` rule -/
def rootItems : Node → Option (List Item)
  | .rule sel items => if isRootSel sel then some items else none
  | _ => none

/-- the body of the pre-pass loop -/
def preStep (env : CliEnv) (i : Nat) (st : St) (n : Node) : St :=
  match rootItems n with
  | some items => { st with rootDecls := st.rootDecls ++ [(i, items)], vars := collectVars env i items st.vars }
  | none => st

theorem prePass_go_cons (env : CliEnv) (n : Node) (r : List Node) (i : Nat) (st : St) :
    prePass.go env (n :: r) i st = prePass.go env r (i + 1) (preStep env i st n) := by
  cases n with
  | rule sel items => simp only [prePass.go, preStep, rootItems]; split <;> rfl
  | «at» k p b => rfl
  | other t ok => rfl

theorem rootItems_some {n : Node} {items : List Item} (h : rootItems n = some items) :
    ∃ sel, n = .rule sel items ∧ isRootSel sel = true := by
  cases n with
  | rule sel its =>
    simp only [rootItems] at h
    split at h
    · next hs => cases h; exact ⟨sel, rfl, hs⟩
    · cases h
  | «at» k p b => cases h
  | other t ok => cases h

/-- the pre-parsed blocks of a stylesheet whose head has position `i`: its `:root` / `html` rules, each under its position -/
def rootBlocks (ns : List Node) (i : Nat) : List (Nat × List Item) :=
  (ns.zipIdx i).filterMap fun p => (rootItems p.1).map (p.2, ·)

theorem prePass_go_rootDecls (env : CliEnv) : (ns : List Node) → (i : Nat) → (st : St) →
    (prePass.go env ns i st).rootDecls = st.rootDecls ++ rootBlocks ns i
  | [], _, st => by simp only [prePass.go, rootBlocks, List.zipIdx_nil, List.filterMap_nil, List.append_nil]
  | n :: r, i, st => by
    rw [prePass_go_cons, prePass_go_rootDecls env r]
    simp only [rootBlocks, List.zipIdx_cons, List.filterMap_cons]
    unfold preStep
    cases rootItems n with
    | none => rfl
    | some items => exact List.append_assoc ..

theorem prePass_rootDecls (env : CliEnv) (nodes : List Node) : (prePass env nodes).rootDecls = rootBlocks nodes 0 :=
  prePass_go_rootDecls env nodes 0 {}

theorem prePass_roots (env : CliEnv) (nodes : List Node) :
    ∀ kv ∈ (prePass env nodes).rootDecls, ∃ sel, nodes[kv.1]? = some (.rule sel kv.2) ∧ isRootSel sel = true := by
  intro kv h
  rw [prePass_rootDecls, rootBlocks, List.mem_filterMap] at h
  obtain ⟨p, hmem, h⟩ := h
  obtain ⟨items, hri, rfl⟩ := Option.map_eq_some_iff.1 h
  obtain ⟨sel, hn, hsel⟩ := rootItems_some hri
  exact ⟨sel, hn ▸ List.mem_zipIdx_iff_getElem?.1 hmem, hsel⟩

theorem prePass_rootInv (env : CliEnv) (nodes : List Node) : RootInv nodes 0 (prePass env nodes).rootDecls := by
  intro kv h j sel items hj hn
  obtain ⟨sel', hn', _⟩ := prePass_roots env nodes kv h
  have : kv.1 = j := by omega
  rw [this, hn] at hn'
  simp at hn'
  rw [hn'.2]; exact sameShape_refl _

theorem RootKeys.mono {ns : List Node} {off : Nat} {r r' : List (Nat × List Item)}
    (h : RootKeys ns off r) (hle : RootsLe r r') : RootKeys ns off r' := by
  intro kv' hkv' j m hj hm
  obtain ⟨kv, hkv, e, _⟩ := hle.shape kv' hkv'
  exact h kv hkv j m (by omega) hm

theorem RootKeys.step {n : Node} {ns : List Node} {off : Nat} {r r' : List (Nat × List Item)}
    (h : RootKeys (n :: ns) off r) (hle : RootsLe r r') : RootKeys ns (off + 1) r' :=
  fun kv hkv j m hj hm => h.mono hle kv hkv (j + 1) m (by omega) (by simpa using hm)

theorem prePass_rootKeys (env : CliEnv) (nodes : List Node) : RootKeys nodes 0 (prePass env nodes).rootDecls := by
  intro kv hkv j n hj hn
  obtain ⟨sel, hsel, hroot⟩ := prePass_roots env nodes kv hkv
  have : kv.1 = j := by omega
  rw [this, hn] at hsel
  exact ⟨sel, kv.2, by simpa using hsel, hroot⟩

/-- the post-pass: a pre-parsed rule is re-serialised from its shared block -/
def postNode (st' : St) (i : Nat) (n : Node) : Node :=
  match n, getRoot st' i with
  | .rule sel _, some its => .rule sel its
  | n, _ => n

/-- `tinycss2.serialize(declarations)` raises for no pre-parsed block -/
def rootsSerialisable (st' : St) : Bool := st'.rootDecls.all fun kv => itemsSerialisable kv.2

/-- the run's counters, the file's own table and blocks -/
def fileSt (env : CliEnv) (nodes : List Node) (st0 : St) : St :=
  { st0 with vars := (prePass env nodes).vars, rootDecls := (prePass env nodes).rootDecls }

theorem stRel_fileSt (env : CliEnv) (nodes : List Node) (st0 : St) : StRel (prePass env nodes) (fileSt env nodes st0) := ⟨rfl, rfl⟩

theorem processFile_eq (env : CliEnv) (cfg : Cfg) (nodes : List Node) (st0 : St) :
    processFile env cfg nodes st0 =
      match processTop env cfg nodes 0 (fileSt env nodes st0) with
      | .error st' => (.error, st')
      | .ok (nodes', st') =>
        if rootsSerialisable st' && nodesSerialisable (nodes'.mapIdx (postNode st')) then
          (.written (nodes'.mapIdx (postNode st')), st')
        else (.error, st') := rfl

theorem processFile_written {env : CliEnv} {cfg : Cfg} {nodes out : List Node} {st0 st' : St}
    (h : processFile env cfg nodes st0 = (.written out, st')) :
    ∃ nodes', processTop env cfg nodes 0 (fileSt env nodes st0) = .ok (nodes', st') ∧ out = nodes'.mapIdx (postNode st') := by
  rw [processFile_eq] at h
  cases hres : processTop env cfg nodes 0 (fileSt env nodes st0) with
  | error e => rw [hres] at h; cases h
  | ok p =>
    rw [hres] at h; simp only at h
    split at h
    · cases h; exact ⟨p.1, rfl, rfl⟩
    · cases h

theorem postNode_succ (st' : St) (off : Nat) :
    (fun i n => postNode st' (i + 1 + off) n) = fun i n => postNode st' (i + (off + 1)) n := by
  funext i n; congr 1; omega

/-- `off` is there for the induction (`mapIdx` counts from 0 again in the tail); it is 0 where the lemma is used -/
theorem postPass_shape (st' : St) : (ns ns' : List Node) → (off : Nat) → sameShapeNodes ns ns' →
    RootInv ns off st'.rootDecls → sameShapeNodes ns (ns'.mapIdx fun i n => postNode st' (i + off) n)
  | [], [], _, _, _ => sameShapeNodes_nil
  | a :: as, b :: bs, off, h, hinv => by
    rw [List.mapIdx_cons]
    have h' := sameShapeNodes_cons.1 h
    refine sameShapeNodes_cons.2 ⟨?_, ?_⟩
    · simp only [Nat.zero_add]
      unfold postNode
      cases hg : getRoot st' off with
      | none => cases b <;> exact h'.1
      | some its =>
        cases b with
        | «at» _ _ _ | other _ _ => exact h'.1
        | rule sel x =>
          cases a with
          | rule s items =>
            exact sameShapeNode_rule.2 ⟨(sameShapeNode_rule.1 h'.1).1, hinv _ (getRoot_mem hg) 0 s items rfl rfl⟩
          | «at» _ _ _ | other _ _ => simp only [sameShapeNode] at h'; exact h'.1.elim
    · rw [postNode_succ]
      exact postPass_shape st' as bs (off + 1) h'.2 (hinv.step (RootsLe.refl _))
  | [], _ :: _, _, h, _ | _ :: _, [], _, h, _ => by simp only [sameShapeNodes] at h

/-- one file: same shape, exactly `countNodes` more classified rules when written, at most that when skipped -/
theorem processFile_spec (env : CliEnv) (cfg : Cfg) (nodes : List Node) (st0 : St) :
    match processFile env cfg nodes st0 with
    | (.written out, st') => sameShapeNodes nodes out ∧ Grew (countNodes nodes) st0 st'
    | (.error, st') => ∃ k, k ≤ countNodes nodes ∧ Grew k st0 st' := by
  have hinv : RootInv nodes 0 (fileSt env nodes st0).rootDecls := prePass_rootInv env nodes
  have h := processTop_spec env cfg nodes 0 (fileSt env nodes st0) hinv
  have hr := (rootsLe_respected env cfg).top nodes 0 (fileSt env nodes st0)
  have e0 : SameCounts (fileSt env nodes st0) st0 := ⟨rfl, rfl, rfl, rfl, rfl⟩
  rw [processFile_eq, ← colourSelsNodes_length]
  cases hres : processTop env cfg nodes 0 (fileSt env nodes st0) with
  | error e =>
    rw [hres] at h
    obtain ⟨⟨k, hk, hg⟩, _⟩ := h
    exact ⟨k, hk, hg.congr e0 (SameCounts.refl _)⟩
  | ok p =>
    obtain ⟨nodes', st'⟩ := p
    rw [hres] at h hr
    obtain ⟨hs, hg, _⟩ := h
    simp only
    by_cases hc : (rootsSerialisable st' && nodesSerialisable (nodes'.mapIdx (postNode st'))) = true
    · rw [if_pos hc]
      exact ⟨postPass_shape st' nodes nodes' 0 hs (hinv.mono hr), hg.congr e0 (SameCounts.refl _)⟩
    · rw [if_neg hc]
      exact ⟨_, Nat.le_refl _, hg.congr e0 (SameCounts.refl _)⟩

theorem processFile_snd (env : CliEnv) (cfg : Cfg) (nodes : List Node) (st0 : St) :
    (processFile env cfg nodes st0).2 = resSt (processTop env cfg nodes 0 (fileSt env nodes st0)) := by
  rw [processFile_eq]
  cases processTop env cfg nodes 0 (fileSt env nodes st0) with
  | error e => rfl
  | ok p => obtain ⟨nodes', st'⟩ := p; simp only [resSt]; split <;> rfl

theorem ResRel.bind {α β : Type} {x y : Except St (α × St)} {g g' : α × St → Except St (β × St)} (h : ResRel x y)
    (hg : ∀ a s t, StRel s t → ResRel (g (a, s)) (g' (a, t))) : ResRel (x >>= g) (y >>= g') :=
  match x, y, h with
  | .error _, .error _, h => h
  | .ok (a, s), .ok (_, t), ⟨rfl, h⟩ => hg a s t h

mutual
  theorem processNode_rel (env : CliEnv) (cfg : Cfg) (top : Option Nat) : (n : Node) → (s t : St) → StRel s t →
      ResRel (processNode env cfg top s n) (processNode env cfg top t n)
    | .rule sel items, s, t, h => by
      rw [processNode_rule, processNode_rule]
      exact (processRule_rel env cfg top sel items h).bind fun _ _ _ h1 => ⟨rfl, h1⟩
    | .at kw pre body, s, t, h => by
      rw [processNode_at, processNode_at]
      refine .ite ?descended ⟨rfl, h⟩  -- an at-rule that is not descended into is returned as is
      refine (processNodes_rel env cfg body s t h).bind fun _ _ _ h1 => ?_
      exact .ite ⟨rfl, h1⟩ h1  -- the body can be re-serialised (`.ok`) or not (`.error`): the same test on both sides
    | .other x ok, s, t, h => by
      rw [processNode_other, processNode_other]; exact ⟨rfl, h⟩
  theorem processNodes_rel (env : CliEnv) (cfg : Cfg) : (ns : List Node) → (s t : St) → StRel s t →
      ResRel (processNodes env cfg s ns) (processNodes env cfg t ns)
    | [], s, t, h => by rw [processNodes_nil, processNodes_nil]; exact ⟨rfl, h⟩
    | n :: ns, s, t, h => by
      rw [processNodes_cons, processNodes_cons]
      exact (processNode_rel env cfg none n s t h).bind fun _ _ _ h1 =>
        (processNodes_rel env cfg ns _ _ h1).bind fun _ _ _ h2 => ⟨rfl, h2⟩
end

theorem processTop_rel (env : CliEnv) (cfg : Cfg) : (ns : List Node) → (i : Nat) → (s t : St) → StRel s t →
    ResRel (processTop env cfg ns i s) (processTop env cfg ns i t)
  | [], i, s, t, h => by rw [processTop_nil, processTop_nil]; exact ⟨rfl, h⟩
  | n :: ns, i, s, t, h => by
    rw [processTop_cons, processTop_cons]
    exact (processNode_rel env cfg (topOf n i) n s t h).bind fun _ _ _ h1 =>
      (processTop_rel env cfg ns (i + 1) _ _ h1).bind fun _ _ _ h2 => ⟨rfl, h2⟩

theorem postNode_rel {s t : St} (h : StRel s t) : postNode s = postNode t := by
  funext i n; unfold postNode; rw [h.getRoot_eq]

/-- the outcome of a file is independent of the counters and detail lists it starts from -/
theorem processFile_indep (env : CliEnv) (cfg : Cfg) (nodes : List Node) (st0 st0' : St) :
    (processFile env cfg nodes st0).1 = (processFile env cfg nodes st0').1 := by
  have h := processTop_rel env cfg nodes 0 (fileSt env nodes st0) (fileSt env nodes st0')
    ((stRel_fileSt env nodes st0).symm.trans (stRel_fileSt env nodes st0'))
  rw [processFile_eq, processFile_eq]
  generalize processTop env cfg nodes 0 (fileSt env nodes st0) = x at h
  generalize processTop env cfg nodes 0 (fileSt env nodes st0') = y at h
  match x, y, h with
  | .error _, .error _, _ => rfl
  | .ok (_, s1), .ok (_, t1), ⟨rfl, h1⟩ =>
    have e : rootsSerialisable s1 = rootsSerialisable t1 := by unfold rootsSerialisable; rw [h1.2]
    simp only [postNode_rel h1, e]
    split <;> rfl

end Cm.Cli
