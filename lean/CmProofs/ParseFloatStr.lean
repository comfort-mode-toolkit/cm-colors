import CmProofs.ParseNumRe
/-!
# `float(str)` on plain decimal numerals, for every faithful oracle and every carrier

`dropUnderscores` on text without underscores, `digits` on runs of ASCII digits (the decimal text of a
natural number is such a run, `allD_nat`, `natVal_nat`), and `parse_lit`: `float()` reads
`[sign] ddd[.ddd]` as `Num.ofDecimal` of the digits.
-/
namespace Cm.ParseSpec
open Cm Cm.Parse

/-- text without an underscore passes `_Py_string_to_number_with_underscores` unchanged, whatever the
    oracle -/
theorem dropUnderscores_go (cls : CharCls) (s : Str) (hs : '_' ∉ s) (prev : Option Char)
    (hp : prev ≠ some '_') (acc : Str) :
    PyFloat.dropUnderscores.go cls s prev acc = some (acc.reverse ++ s) := by
  induction s generalizing prev acc with
  | nil => simp [PyFloat.dropUnderscores.go, hp]
  | cons c cs ih =>
    have hc : c ≠ '_' := fun h => hs (h ▸ List.mem_cons_self)
    have hcs : '_' ∉ cs := fun h => hs (List.mem_cons_of_mem _ h)
    simp only [PyFloat.dropUnderscores.go, hc, if_false, hp, decide_false, Bool.false_and, Bool.false_eq_true]
    rw [ih hcs (some c) (by simpa using hc)]
    simp

theorem dropUnderscores_none (cls : CharCls) (s : Str) (hs : '_' ∉ s) :
    PyFloat.dropUnderscores cls s = some s := by
  unfold PyFloat.dropUnderscores
  rw [dropUnderscores_go cls s hs none (by simp)]
  simp

def natVal (ds : Str) : Nat := ds.foldl (fun v c => v * 10 + dv c) 0

theorem dig_of_isD {cls : CharCls} (hf : AsciiFaithful cls)
    {c : Char} (h : isD c = true) : PyFloat.dig cls c = some (dv c) :=
  (hf.digit c (isD_lt c h)).trans (digFacts c h).val

theorem digits_go {cls : CharCls} (hf : AsciiFaithful cls)
    {ds rest : Str} (hd : AllD ds) (hr : ∀ c r, rest = c :: r → PyFloat.dig cls c = none)
    (v n : Nat) : PyFloat.digits.go cls (ds ++ rest) v n =
      (ds.foldl (fun v c => v * 10 + dv c) v, n + ds.length, rest) := by
  induction ds generalizing v n with
  | nil =>
    cases rest with
    | nil => simp [PyFloat.digits.go]
    | cons c r =>
      rw [List.nil_append, PyFloat.digits.go]
      simp only [hr c r rfl, List.foldl_nil, List.length_nil, Nat.add_zero]
  | cons d t ih =>
    rw [List.cons_append, PyFloat.digits.go]
    simp only [dig_of_isD hf (hd d List.mem_cons_self)]
    rw [ih (fun c hc => hd c (List.mem_cons_of_mem _ hc))]
    simp only [List.foldl_cons, List.length_cons]
    congr 2
    omega

theorem digits_eq {cls : CharCls} (hf : AsciiFaithful cls)
    {ds rest : Str} (hd : AllD ds) (hr : ∀ c r, rest = c :: r → PyFloat.dig cls c = none) :
    PyFloat.digits cls (ds ++ rest) = (natVal ds, ds.length, rest) := by
  unfold PyFloat.digits natVal
  rw [digits_go hf hd hr]; simp


theorem isD_of_isDigit {c : Char} (h : c.isDigit = true) : isD c = true := by
  unfold Char.isDigit at h
  unfold isD asciiDigit
  have : '0' ≤ c ∧ c ≤ '9' := by
    simp only [ge_iff_le, Bool.and_eq_true, decide_eq_true_eq] at h
    exact ⟨Char.le_def.2 h.1, Char.le_def.2 h.2⟩
  rw [if_pos this]; rfl

theorem dv_eq {c : Char} (h : isD c = true) : dv c = c.toNat - '0'.toNat := by
  unfold isD at h
  unfold dv
  unfold asciiDigit at h ⊢
  split
  · rfl
  · rename_i hn; rw [if_neg hn] at h; cases h

theorem natVal_eq_ofDigitChars {ds : Str} (hd : AllD ds) : natVal ds = Nat.ofDigitChars 10 ds 0 := by
  unfold natVal Nat.ofDigitChars
  suffices ∀ v, ds.foldl (fun v c => v * 10 + dv c) v =
      ds.foldl (fun sofar c => 10 * sofar + (c.toNat - '0'.toNat)) v from this 0
  induction ds with
  | nil => intro v; rfl
  | cons c cs ih =>
    intro v
    rw [List.foldl_cons, List.foldl_cons, dv_eq (hd c List.mem_cons_self), Nat.mul_comm]
    exact ih (fun x hx => hd x (List.mem_cons_of_mem _ hx)) _

theorem toString_nat_toList (n : ℕ) : (toString n).toList = Nat.toDigits 10 n := by
  rw [Nat.toString_eq_repr, Nat.toList_repr]

theorem allD_nat (n : ℕ) : AllD (toString n).toList := by
  rw [toString_nat_toList]
  exact fun c hc => isD_of_isDigit (Nat.isDigit_of_mem_toDigits (by decide) (by decide) hc)

theorem natVal_nat (n : ℕ) : natVal (toString n).toList = n := by
  have hd := allD_nat n
  rw [toString_nat_toList] at hd ⊢
  rw [natVal_eq_ofDigitChars hd, Nat.ofDigitChars_ten_toDigits]

theorem toString_nat_ne_nil (n : ℕ) : (toString n).toList ≠ [] := by
  rw [toString_nat_toList]; exact Nat.toDigits_ne_nil

inductive SignOf : Str → Bool → Prop
  | none : SignOf [] false
  | minus : SignOf ['-'] true
  | plus : SignOf ['+'] false

theorem lowerAscii_cons (c : Char) (cs : Str) :
    PyFloat.lowerAscii (c :: cs) = lc c :: PyFloat.lowerAscii cs := by
  unfold PyFloat.lowerAscii
  rw [List.flatMap_cons, asciiLower_eq]; rfl

theorem lit_inf : "inf".toList = ['i', 'n', 'f'] := by decide
theorem lit_infinity : "infinity".toList = ['i', 'n', 'f', 'i', 'n', 'i', 't', 'y'] := by decide
theorem lit_nan : "nan".toList = ['n', 'a', 'n'] := by decide

def NumChar (c : Char) : Prop := isD c = true ∨ c = '.'

theorem numChars_dot {ds fs : Str} (hd : AllD ds) (hf : AllD fs) : ∀ c ∈ ds ++ '.' :: fs, NumChar c :=
  List.forall_mem_append.2 ⟨fun c hc => Or.inl (hd c hc),
    List.forall_mem_cons.2 ⟨Or.inr rfl, fun c hc => Or.inl (hf c hc)⟩⟩

/-- what `float()` needs of one character of a numeral: it is no sign, starts none of `inf` / `nan`, is neither
    C white space nor an underscore -/
structure NumCharFacts (c : Char) : Prop where
  lt : c.toNat < 128
  ne_minus : c ≠ '-'
  ne_plus : c ≠ '+'
  ne_i : lc c ≠ 'i'
  ne_n : lc c ≠ 'n'
  notFloatSpace : PyFloat.isFloatSpace asciiCls c = false
  ne_us : c ≠ '_'

theorem numCharFacts {c : Char} (h : NumChar c) : NumCharFacts c := by
  rcases h with h | rfl
  · have F := digFacts c h
    exact ⟨isD_lt c h, F.ne_minus, F.ne_plus, by rw [F.lc]; exact F.ne_i, by rw [F.lc]; exact F.ne_n,
      F.notFloatSpace, F.ne_us⟩
  · exact ⟨by decide, by decide, by decide, by decide, by decide, by decide, by decide⟩

/-- below 128 `Py_ISSPACE` does not consult the oracle -/
theorem isFloatSpace_of_ascii (cls : CharCls) {c : Char} (h : c.toNat < 128) :
    PyFloat.isFloatSpace cls c = PyFloat.isFloatSpace asciiCls c := by
  unfold PyFloat.isFloatSpace
  rw [if_pos h, if_pos h]

/-- `float()` on `[sign] ddd[.ddd]`, for every faithful oracle and every carrier. `tail` is the text after the
    integer digits `ds`: nothing, or the point followed by the fraction digits `fs`; one of `ds`, `fs` is
    non-empty (`5.`, `.5`) -/
theorem parse_lit {cls : CharCls} (hcls : AsciiFaithful cls) {α : Type} [inst : Num α] {sgn : Str} {neg : Bool}
    (hs : SignOf sgn neg) {ds tail fs : Str}
    (hd : AllD ds) (hf : AllD fs) (htail : (tail = [] ∧ fs = []) ∨ tail = '.' :: fs)
    (hne : ds ≠ [] ∨ fs ≠ []) :
    PyFloat.parse (α := α) cls (sgn ++ (ds ++ tail)) =
      .ok (Num.ofDecimal neg (natVal ds * 10 ^ fs.length + natVal fs) (-(Int.ofNat fs.length))) := by
  -- the body is non-empty and made of digits and the point
  have hbody : ∀ c ∈ ds ++ tail, NumChar c := by
    rcases htail with ⟨rfl, -⟩ | rfl
    · rw [List.append_nil]
      exact fun c hc => Or.inl (hd c hc)
    · exact numChars_dot hd hf
  have hbne : ds ++ tail ≠ [] := by
    rcases htail with ⟨-, rfl⟩ | rfl
    · exact List.append_ne_nil_of_left_ne_nil (hne.resolve_right fun h => h rfl) _
    · exact List.append_ne_nil_of_right_ne_nil _ (List.cons_ne_nil _ _)
  -- so the text has neither white space nor underscores: the first two steps of `float()` do nothing
  have hall : ∀ c ∈ sgn ++ (ds ++ tail),
      c.toNat < 128 ∧ PyFloat.isFloatSpace asciiCls c = false ∧ c ≠ '_' := by
    intro c hc
    rcases List.mem_append.1 hc with h | h
    · cases hs
      · cases h
      · rw [List.mem_singleton.1 h]; decide
      · rw [List.mem_singleton.1 h]; decide
    · have F := numCharFacts (hbody c h)
      exact ⟨F.lt, F.notFloatSpace, F.ne_us⟩
  have hstrip := stripBy_of_forall (PyFloat.isFloatSpace cls) fun c hc =>
    let ⟨hlt, hsp, _⟩ := hall c hc
    (isFloatSpace_of_ascii cls hlt).trans hsp
  have hus := dropUnderscores_none cls (sgn ++ (ds ++ tail)) fun hm =>
    let ⟨_, _, hne_us⟩ := hall _ hm
    hne_us rfl
  -- the head of the body is no sign and starts none of `inf`, `infinity`, `nan`
  obtain ⟨h, t, hb⟩ := List.exists_cons_of_ne_nil hbne
  have H := numCharFacts (hbody h (hb ▸ List.mem_cons_self))
  have hlb : PyFloat.lowerAscii (ds ++ tail) = lc h :: PyFloat.lowerAscii t := by
    rw [hb, lowerAscii_cons]
  have c1 : PyFloat.lowerAscii (ds ++ tail) ≠ "inf".toList := by
    rw [hlb, lit_inf]; intro e; exact H.ne_i (List.cons.inj e).1
  have c2 : PyFloat.lowerAscii (ds ++ tail) ≠ "infinity".toList := by
    rw [hlb, lit_infinity]; intro e; exact H.ne_i (List.cons.inj e).1
  have c3 : PyFloat.lowerAscii (ds ++ tail) ≠ "nan".toList := by
    rw [hlb, lit_nan]; intro e; exact H.ne_n (List.cons.inj e).1
  have hdig : PyFloat.digits cls (ds ++ tail) = (natVal ds, ds.length, tail) :=
    digits_eq hcls hd (fun c r he => by
      rcases htail with ⟨rfl, _⟩ | rfl
      · cases he
      · cases he
        exact (hcls.digit '.' (by decide)).trans (by decide))
  have hdf : PyFloat.digits cls fs = (natVal fs, fs.length, []) := by
    have := digits_eq hcls (ds := fs) (rest := []) hf (fun c r he => by cases he)
    rwa [List.append_nil] at this
  have hlen : ¬ (ds.length + fs.length = 0) := by
    rw [Nat.add_eq_zero_iff, List.length_eq_zero_iff, List.length_eq_zero_iff]
    exact fun ⟨a, b⟩ => hne.elim (fun h => h a) (fun h => h b)
  unfold PyFloat.parse
  simp only [hstrip, hus]
  -- name the two components of the sign split and compute them
  generalize hn : (Prod.fst _ : Bool) = n
  generalize hr : (Prod.snd _ : Str) = r
  have hsplit : n = neg ∧ r = ds ++ tail := by
    rw [← hn, ← hr]
    cases hs
    · rw [List.nil_append, hb]
      split
      · rename_i heq; exact absurd (List.cons.inj heq).1 H.ne_minus
      · rename_i heq; exact absurd (List.cons.inj heq).1 H.ne_plus
      · exact ⟨rfl, rfl⟩
    · exact ⟨rfl, rfl⟩
    · exact ⟨rfl, rfl⟩
  obtain ⟨rfl, rfl⟩ := hsplit
  simp only [c1, c2, c3, decide_false, Bool.or_false, Bool.false_eq_true, if_false, hdig]
  rcases htail with ⟨rfl, rfl⟩ | rfl
  · simpa [natVal] using hlen
  · simp only [hdf, hlen, if_false]

end Cm.ParseSpec
