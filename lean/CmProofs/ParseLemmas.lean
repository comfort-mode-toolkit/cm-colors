import CmProofs.ParseTable
/-!
# `parseStr` on keywords and hex notations; spellings that parse alike
-/
namespace Cm.ParseSpec
open Cm Cm.Parse

theorem isAscii_of_hex {ds : Str} (h : ∀ c ∈ ds, Str.isHexDigit c = true) : IsAscii ds :=
  fun c hc => hexDigit_lt c (h c hc)

theorem hex_notSpace {cls : CharCls} (hf : AsciiFaithful cls) {c : Char} (hc : Str.isHexDigit c = true) :
    cls.isSpace c = false :=
  (hf.isSpace c (hexDigit_lt c hc)).trans (hexCharFacts c hc).notSpace

theorem strip_hex {cls : CharCls} (hf : AsciiFaithful cls) {ds : Str}
    (hall : ∀ c ∈ ds, Str.isHexDigit c = true) : Str.strip cls ds = ds :=
  strip_noSpace cls fun c hc => hex_notSpace hf (hall c hc)

theorem strip_hash_hex {cls : CharCls} (hf : AsciiFaithful cls) {ds : Str}
    (hall : ∀ c ∈ ds, Str.isHexDigit c = true) : Str.strip cls ('#' :: ds) = '#' :: ds :=
  strip_noSpace cls <| List.forall_mem_cons.2
    ⟨(hf.isSpace '#' (by decide)).trans (by decide), fun c hc => hex_notSpace hf (hall c hc)⟩

/-- the colour `#abcdef` denotes -/
def hex6 (a b c d e f : Char) : RGB :=
  (Int.ofNat (16 * hv a + hv b), Int.ofNat (16 * hv c + hv d), Int.ofNat (16 * hv e + hv f))

/-- `hex_to_rgb` strips the text, then the `#` -/
theorem lstripHash_strip_hash {cls : CharCls} (hf : AsciiFaithful cls) {ds : Str} (hne : ds ≠ [])
    (hall : ∀ c ∈ ds, Str.isHexDigit c = true) :
    Str.lstripHash (Str.strip cls ('#' :: ds)) = ds := by
  rw [strip_hash_hex hf hall]
  obtain ⟨a, t, rfl⟩ := List.exists_cons_of_ne_nil hne
  unfold Str.lstripHash
  simp [(hexCharFacts a (hall a List.mem_cons_self)).neHash]

theorem hexToRgb_hash6 {cls : CharCls} (hf : AsciiFaithful cls) (n : List (Str × Str))
    {a b c d e f : Char}
    (ha : Str.isHexDigit a = true) (hb : Str.isHexDigit b = true) (hc : Str.isHexDigit c = true)
    (hd : Str.isHexDigit d = true) (he : Str.isHexDigit e = true) (hf' : Str.isHexDigit f = true) :
    hexToRgb ⟨cls, n⟩ ['#', a, b, c, d, e, f] = .ok (hex6 a b c d e f) := by
  unfold hexToRgb
  simp only [lstripHash_strip_hash hf (ds := [a, b, c, d, e, f]) (by simp) (by simp [*]),
    (hexCharFacts a ha).val, (hexCharFacts b hb).val, (hexCharFacts c hc).val,
    (hexCharFacts d hd).val, (hexCharFacts e he).val, (hexCharFacts f hf').val]
  rfl

theorem hexToRgb_hash3 {cls : CharCls} (hf : AsciiFaithful cls) (n : List (Str × Str))
    {a b c : Char}
    (ha : Str.isHexDigit a = true) (hb : Str.isHexDigit b = true) (hc : Str.isHexDigit c = true) :
    hexToRgb ⟨cls, n⟩ ['#', a, b, c] = .ok (hex6 a a b b c c) := by
  unfold hexToRgb
  simp only [lstripHash_strip_hash hf (ds := [a, b, c]) (by simp) (by simp [*]),
    (hexCharFacts a ha).val, (hexCharFacts b hb).val, (hexCharFacts c hc).val]
  rfl

section
variable {α : Type} [Num α]

/-- `parse_color_to_rgb` strips first, and `strip` is idempotent -/
theorem parseStr_strip (E : PEnv) (color : Str) (bg : Option RGB) :
    parseStr (α := α) E (Str.strip E.cls color) bg = parseStr (α := α) E color bg := by
  unfold parseStr
  simp only [strip_idem]

/-- the keyword table enters `parseStr` through `lookupNamed` only: the converters read `E.cls` -/
theorem parseStr_of_lookup_none {cls : CharCls} {n : List (Str × Str)} {s : Str}
    (h : lookupNamed ⟨cls, n⟩ (Str.lower cls (Str.strip cls s)) = none) (bg : Option RGB) :
    parseStr (α := α) ⟨cls, n⟩ s bg = parseStr (α := α) ⟨cls, []⟩ s bg := by
  have h0 : ∀ x, lookupNamed ⟨cls, []⟩ x = none := fun _ => rfl
  -- (`rfl` on the three long converters is slow to check; unfolding shows both sides alike)
  have e2 : ∀ t b, hslaStrToRgb (α := α) ⟨cls, n⟩ t b = hslaStrToRgb (α := α) ⟨cls, []⟩ t b :=
    fun _ _ => by simp only [hslaStrToRgb]
  have e3 : ∀ t, hslStrToRgb (α := α) ⟨cls, n⟩ t = hslStrToRgb (α := α) ⟨cls, []⟩ t :=
    fun _ => by simp only [hslStrToRgb, parseHue, pctOrDec]
  have e4 : ∀ t c, numberToken (α := α) ⟨cls, n⟩ t c = numberToken (α := α) ⟨cls, []⟩ t c :=
    fun _ _ => by simp only [numberToken, floatOrValueError]
  unfold parseStr
  simp only [h, h0, hexToRgb_named_irrel cls n [], e2, e3, e4]

theorem parseStr_not_word {cls : CharCls} {s : Str}
    (h : ∃ c ∈ Str.lower cls (Str.strip cls s), ¬('a' ≤ c ∧ c ≤ 'z')) (bg : Option RGB) :
    parseStr (α := α) ⟨cls, namedEnv⟩ s bg = parseStr (α := α) ⟨cls, []⟩ s bg :=
  let ⟨_, hc, hn⟩ := h
  parseStr_of_lookup_none (lookupNamed_of_nonkey cls (namedEnv_nonletter hn) hc) bg

theorem lower_hash_hex {cls : CharCls} (hf : AsciiFaithful cls) {ds : Str}
    (hall : ∀ c ∈ ds, Str.isHexDigit c = true) : Str.lower cls ('#' :: ds) = '#' :: ds.map lc := by
  rw [lower_eq_map hf (List.forall_mem_cons.2 ⟨by decide, isAscii_of_hex hall⟩), List.map_cons]
  rfl

theorem parseStr_hash {cls : CharCls} (hf : AsciiFaithful cls) {n : List (Str × Str)}
    (hn : ∀ kv ∈ n, '#' ∉ kv.1) {ds : Str}
    (hall : ∀ c ∈ ds, Str.isHexDigit c = true) (bg : Option RGB) :
    parseStr (α := α) ⟨cls, n⟩ ('#' :: ds) bg = hexToRgb ⟨cls, n⟩ ('#' :: ds) := by
  unfold parseStr
  simp only [strip_hash_hex hf hall]
  simp only [lower_hash_hex hf hall, lookupNamed_of_nonkey cls hn List.mem_cons_self]
  simp [Str.startsWith]

theorem isBareHex_all {ds : Str} (h : isBareHex ds = true) : ∀ c ∈ ds, Str.isHexDigit c = true := by
  unfold isBareHex at h
  rw [Bool.and_eq_true] at h
  exact List.all_eq_true.1 h.2

theorem isBareHex_ne_nil {ds : Str} (h : isBareHex ds = true) : ds ≠ [] := by
  rintro rfl
  exact absurd h (by decide)

theorem parseStr_bare {cls : CharCls} (hf : AsciiFaithful cls) {ds : Str} (hb : isBareHex ds = true)
    (bg : Option RGB) :
    parseStr (α := α) ⟨cls, namedEnv⟩ ds bg = hexToRgb ⟨cls, namedEnv⟩ ('#' :: ds) := by
  have hall := isBareHex_all hb
  have hne := isBareHex_ne_nil hb
  unfold parseStr
  simp only [strip_hex hf hall]
  have hlow : Str.lower cls ds = ds.map lc := lower_eq_map hf (isAscii_of_hex hall)
  -- lower-casing keeps the text a bare hex string, so it is no keyword; nor does it start with `#`
  have hb' : isBareHex (ds.map lc) = true := by
    unfold isBareHex at hb ⊢
    rw [Bool.and_eq_true] at hb ⊢
    refine ⟨by simpa using hb.1, ?_⟩
    rw [List.all_eq_true]
    intro c hc
    obtain ⟨d, hd, rfl⟩ := List.mem_map.1 hc
    exact (hexCharFacts d (hall d hd)).lcHex
  simp only [hlow, lookupNamed_bareHex cls hb', hb']
  obtain ⟨a, t, rfl⟩ := List.exists_cons_of_ne_nil hne
  have hneq : lc a ≠ '#' := (hexCharFacts a (hall a List.mem_cons_self)).lcNeHash
  have : Str.startsWith (lc a :: List.map lc t) ['#'] = false := by
    simp [Str.startsWith, List.isPrefixOf, hneq.symm]
  simp only [List.map_cons, this, Bool.false_or, if_true, Bool.false_eq_true, if_false]

end

section
variable {α : Type} [Num α]

theorem hslaStr_congr (E : PEnv) (s t : Str) (bg : Option RGB)
    (h : Str.lower E.cls (Str.strip E.cls s) = Str.lower E.cls (Str.strip E.cls t)) :
    hslaStrToRgb (α := α) E s bg = hslaStrToRgb (α := α) E t bg := by
  unfold hslaStrToRgb; simp only [h]

theorem hslStr_congr (E : PEnv) (s t : Str)
    (h : Str.lower E.cls (Str.strip E.cls s) = Str.lower E.cls (Str.strip E.cls t)) :
    hslStrToRgb (α := α) E s = hslStrToRgb (α := α) E t := by
  unfold hslStrToRgb; simp only [h]

end

end Cm.ParseSpec
