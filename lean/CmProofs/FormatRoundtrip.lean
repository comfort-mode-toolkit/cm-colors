import CmProofs.ParseRgbStr
/-!
# Reading back what `format_color` writes, at the level of strings

The keyword table is any table whose keys are lower-case letters (`keysLower`), the oracle any that agrees with ASCII on
ASCII characters, the carrier any that reads a byte's decimal text exactly (`ByteExact`); the only number tokens are runs
of the ten ASCII digits, which is what `str(int)` writes. `rgb(r, g, b)` is presented as one of `ParseRgbStr`'s texts
(`intStr_tok`, `fmtRgbFn_text`); only the reading of a token at an arbitrary carrier is done here.
-/
namespace Cm
namespace FmtRt
open Parse

/-- the oracle gives ASCII characters their ASCII classes (true of the Unicode database) -/
structure AsciiFaithful (cls : CharCls) : Prop where
  isSpace : ∀ c : Char, c.toNat < 128 → cls.isSpace c = asciiIsSpace c
  digit : ∀ c : Char, c.toNat < 128 → cls.digit c = asciiDigit c
  lower : ∀ c : Char, c.toNat < 128 → cls.lower c = asciiLower c

/-- field for field `ParseSpec.AsciiFaithful`, whose lemmas are used through this conversion -/
theorem AsciiFaithful.spec {cls : CharCls} (h : AsciiFaithful cls) : ParseSpec.AsciiFaithful cls :=
  ⟨h.isSpace, h.digit, h.lower⟩

/-- every keyword consists of lower-case ASCII letters only -/
def keysLower (named : List (Str × Str)) : Bool := named.all fun kv => kv.1.all Char.isLower

/-- the keyword table of the Python source as the model's environment holds it -/
def namedEnv : List (Str × Str) := CmGen.namedTable.map fun kv => (kv.1.toList, kv.2.toList)

theorem isLower_of_letter {c : Char} (h : 'a' ≤ c ∧ c ≤ 'z') : c.isLower = true := by
  unfold Char.isLower
  rw [Bool.and_eq_true, decide_eq_true_eq, decide_eq_true_eq]
  exact ⟨Char.le_def.1 h.1, Char.le_def.1 h.2⟩

theorem keysLower_namedEnv : keysLower namedEnv = true :=
  List.all_eq_true.2 fun _ hkv => List.all_eq_true.2 fun c hc =>
    isLower_of_letter ((ParseSpec.key_letters hkv).2 c hc)

theorem namedTable_keys_alpha : ∀ kv ∈ CmGen.namedTable, kv.1.toList.all Char.isLower = true :=
  fun kv hkv => List.all_eq_true.1 keysLower_namedEnv (kv.1.toList, kv.2.toList)
    (List.mem_map.2 ⟨kv, hkv, rfl⟩)

/-- the form in which `keysLower` is used -/
theorem not_mem_key {named : List (Str × Str)} (hk : keysLower named = true) (c : Char)
    (hc : c.isLower = false) : ∀ kv ∈ named, c ∉ kv.1 := fun kv hkv h => by
  rw [List.all_eq_true.1 (List.all_eq_true.1 hk kv hkv) c h] at hc
  cases hc

theorem validRgb_nat (c : RGB) (h : validRgb c = true) :
    ∃ r g b : Nat, r < 256 ∧ g < 256 ∧ b < 256 ∧ c = ((r : Int), (g : Int), (b : Int)) := by
  obtain ⟨r, g, b⟩ := c
  obtain ⟨⟨hr0, hr1⟩, ⟨hg0, hg1⟩, hb0, hb1⟩ :
    (0 ≤ r ∧ r ≤ 255) ∧ (0 ≤ g ∧ g ≤ 255) ∧ 0 ≤ b ∧ b ≤ 255 := (validRgb_iff _).1 h
  refine ⟨r.toNat, g.toNat, b.toNat, by omega, by omega, by omega, ?_⟩
  rw [Int.toNat_of_nonneg hr0, Int.toNat_of_nonneg hg0, Int.toNat_of_nonneg hb0]

/-- the sixteen characters `format(v, "02x")` uses -/
def hexChars : Str := "0123456789abcdef".toList

theorem hexChars_isHexDigit : ∀ x ∈ hexChars, Str.isHexDigit x = true := by decide

theorem hexDigit_mem : ∀ n : Fin 16, hexDigit n.val ∈ hexChars := by decide

theorem hv_hexDigit : ∀ n : Fin 16, ParseSpec.hv (hexDigit n.val) = n.val := by decide

/-- the two characters of one byte -/
def hexByte (v : Nat) : Str := [hexDigit (v / 16), hexDigit (v % 16)]

theorem fmtHex_nat (r g b : Nat) :
    fmtHex ((r : Int), (g : Int), (b : Int)) = '#' :: (hexByte r ++ hexByte g ++ hexByte b) := by
  unfold fmtHex hexByte
  simp only [Int.toNat_natCast]

theorem hexByte_mem (v : Nat) (h : v < 256) : ∀ x ∈ hexByte v, x ∈ hexChars := by
  intro x hx
  simp only [hexByte, List.mem_cons, List.not_mem_nil, or_false] at hx
  rcases hx with rfl | rfl
  · exact hexDigit_mem ⟨v / 16, by omega⟩
  · exact hexDigit_mem ⟨v % 16, by omega⟩

/-- the two characters of `hexByte v` spell `v` in base 16 -/
theorem hexByte_val (v : Nat) (h : v < 256) :
    16 * ParseSpec.hv (hexDigit (v / 16)) + ParseSpec.hv (hexDigit (v % 16)) = v := by
  rw [hv_hexDigit ⟨v / 16, by omega⟩, hv_hexDigit ⟨v % 16, by omega⟩]
  show 16 * (v / 16) + v % 16 = v
  omega

theorem fmtHex_digits (c : RGB) (hc : validRgb c = true) :
    ∃ d1 d2 d3 d4 d5 d6 : Char, fmtHex c = ['#', d1, d2, d3, d4, d5, d6] ∧
      (∀ x ∈ [d1, d2, d3, d4, d5, d6], x ∈ hexChars) ∧ ParseSpec.hex6 d1 d2 d3 d4 d5 d6 = c := by
  obtain ⟨r, g, b, hr, hg, hb, rfl⟩ := validRgb_nat c hc
  refine ⟨_, _, _, _, _, _, fmtHex_nat r g b,
    List.forall_mem_append.2
      ⟨List.forall_mem_append.2 ⟨hexByte_mem r hr, hexByte_mem g hg⟩, hexByte_mem b hb⟩, ?_⟩
  unfold ParseSpec.hex6
  rw [hexByte_val r hr, hexByte_val g hg, hexByte_val b hb]
  rfl

theorem detect_hash {α : Type} {cls : CharCls} (hf : AsciiFaithful cls) (named : List (Str × Str))
    (hk : keysLower named = true) {ds : Str} (hall : ∀ c ∈ ds, Str.isHexDigit c = true) :
    detectFormat (α := α) ⟨cls, named⟩ (.str ('#' :: ds)) = .hex := by
  unfold detectFormat
  simp only [ParseSpec.strip_hash_hex hf.spec hall, ParseSpec.lower_hash_hex hf.spec hall,
    ParseSpec.lookupNamed_of_nonkey cls (not_mem_key hk '#' (by decide)) List.mem_cons_self]
  rfl

theorem parseStr_fmtHex {α : Type} [Num α] {cls : CharCls} (hf : AsciiFaithful cls)
    (named : List (Str × Str)) (hk : keysLower named = true) (c : RGB) (hc : validRgb c = true)
    (bg : Option RGB) :
    parseStr (α := α) ⟨cls, named⟩ (fmtHex c) bg = .ok c := by
  obtain ⟨d1, d2, d3, d4, d5, d6, e, m, v⟩ := fmtHex_digits c hc
  have hd : ∀ x ∈ [d1, d2, d3, d4, d5, d6], Str.isHexDigit x = true :=
    fun x hx => hexChars_isHexDigit x (m x hx)
  rw [e, ParseSpec.parseStr_hash hf.spec (not_mem_key hk '#' (by decide)) hd]
  simp only [List.forall_mem_cons] at hd
  obtain ⟨h1, h2, h3, h4, h5, h6, -⟩ := hd
  rw [ParseSpec.hexToRgb_hash6 hf.spec named h1 h2 h3 h4 h5 h6, v]

theorem ok_bind {ε β γ : Type} (a : β) (f : β → Except ε γ) : (Except.ok a >>= f) = f a := rfl

theorem rgbComponent_int {α : Type} [Num α] (E : PEnv) (n : Int) (h0 : 0 ≤ n) (h1 : n ≤ 255) :
    rgbComponent (α := α) E (.int n) = .ok n := by
  unfold rgbComponent
  simp only [h0, h1, and_self, if_true]

theorem seq_ints {α : Type} [Num α] (E : PEnv) (c : RGB) (hc : validRgb c = true) (bg : Option RGB) :
    parseColor (α := α) E (.tuple [.int c.1, .int c.2.1, .int c.2.2]) bg = .ok c ∧
    parseColor (α := α) E (.list [.int c.1, .int c.2.1, .int c.2.2]) bg = .ok c := by
  obtain ⟨hr, hg, hb⟩ := (validRgb_iff c).1 hc
  constructor <;>
  · unfold parseColor
    simp only [ok_bind, Bool.and_false, Bool.false_eq_true, if_false, rgbComponent_int E _ hr.1 hr.2,
      rgbComponent_int E _ hg.1 hg.2, rgbComponent_int E _ hb.1 hb.2, clamp255_id hr,
      clamp255_id hg, clamp255_id hb, hc, if_true]
    rfl

/-- the ten characters `str(int)` uses -/
def digitChars : Str := "0123456789".toList

theorem digitChars_isD : ∀ c ∈ digitChars, ParseSpec.isD c = true := by decide

theorem allD {D : Str} (hD : ∀ c ∈ D, c ∈ digitChars) : ParseSpec.AllD D :=
  fun c hc => digitChars_isD c (hD c hc)

/-- value of a digit string read from the left, starting from `v` -/
def decFrom (v : Nat) (D : Str) : Nat := D.foldl (fun v c => v * 10 + (c.toNat - 48)) v

theorem decFrom_eq (v : Nat) (D : Str) : decFrom v D = Nat.ofDigitChars 10 D v := by
  unfold decFrom Nat.ofDigitChars
  congr 1
  funext v c
  rw [Nat.mul_comm]; rfl

theorem natVal_eq_decFrom {D : Str} (hD : ∀ c ∈ D, c ∈ digitChars) : ParseSpec.natVal D = decFrom 0 D :=
  (ParseSpec.natVal_eq_ofDigitChars (allD hD)).trans (decFrom_eq 0 D).symm

theorem parse_digits {cls : CharCls} (hf : AsciiFaithful cls) {α : Type} [Num α] (D : Str)
    (hD : ∀ c ∈ D, c ∈ digitChars) (hne : D ≠ []) :
    PyFloat.parse (α := α) cls D = .ok (Num.ofDecimal false (decFrom 0 D) 0) := by
  -- a bare digit string is `[sign] ddd[.ddd]` with no sign, no fraction, no tail
  have h := ParseSpec.parse_lit hf.spec (α := α) (hs := .none) (ds := D) (tail := []) (fs := [])
    (hd := allD hD) (hf := fun _ h => nomatch h) (htail := .inl ⟨rfl, rfl⟩) (hne := .inl hne)
  rw [List.nil_append, List.append_nil] at h
  rw [h, natVal_eq_decFrom hD]
  -- with no fraction digits the mantissa `natVal D * 10 ^ 0 + natVal []` is the value of `D`
  show Except.ok (Num.ofDecimal false (decFrom 0 D * 1 + 0) 0) = _
  rw [Nat.mul_one, Nat.add_zero]

theorem mem_digitChars_of_isDigit {c : Char} (h : c.isDigit = true) : c ∈ digitChars := by
  unfold Char.isDigit at h
  rw [Bool.and_eq_true, decide_eq_true_eq, decide_eq_true_eq] at h
  exact ParseSpec.mem_of_range digitChars 48 10 c (by decide) (UInt32.le_iff_toNat_le.1 h.1)
    (Nat.lt_succ_of_le (UInt32.le_iff_toNat_le.1 h.2))

theorem intStr_eq (n : Nat) : intStr (n : Int) = (toString n).toList := by
  unfold intStr
  rw [if_neg (by omega), Int.toNat_natCast]

theorem intStr_nat (n : Nat) :
    (∀ c ∈ intStr (n : Int), c ∈ digitChars) ∧ intStr (n : Int) ≠ [] ∧
      decFrom 0 (intStr (n : Int)) = n := by
  rw [intStr_eq, ParseSpec.toString_nat_toList]
  exact ⟨fun c hc => mem_digitChars_of_isDigit (Nat.isDigit_of_mem_toDigits (by decide) (by decide) hc),
    Nat.toDigits_ne_nil, by rw [decFrom_eq, Nat.ofDigitChars_ten_toDigits]⟩

/-- `str(n)` is a number token of the parser's vocabulary -/
theorem intStr_tok (n : Nat) : ParseSpec.NumTok (intStr (n : Int)) (n : ℚ) false :=
  intStr_eq n ▸ .plain (ParseSpec.numeral_nat n)

/-- what stands between the parentheses of `rgb(r, g, b)`, nested to the right and ending in `++ []` because it is
    written in the shape of `SepToks.cons` / `.last` (the `[]` is the empty separator run before `)`) -/
def rgbBody (r g b : Nat) : Str :=
  intStr (r : Int) ++ ([',', ' '] ++ (intStr (g : Int) ++ ([',', ' '] ++ (intStr (b : Int) ++ []))))

theorem fmtRgbFn_nat (r g b : Nat) :
    fmtRgbFn ((r : Int), (g : Int), (b : Int)) = "rgb(".toList ++ rgbBody r g b ++ [')'] := by
  have e2 : ", ".toList = [',', ' '] := by decide
  unfold fmtRgbFn rgbBody
  rw [e2]
  simp only [List.cons_append, List.nil_append, List.append_nil, List.append_assoc]

/-- `rgb(r, g, b)` in the parser's vocabulary: three `str(int)` tokens separated by `, ` -/
theorem rgbBody_sepToks (r g b : Nat) :
    ParseSpec.SepToks (rgbBody r g b)
      [(intStr (r : Int), (r : ℚ), false), (intStr (g : Int), (g : ℚ), false), (intStr (b : Int), (b : ℚ), false)] :=
  have sep : ParseSpec.AllSep [',', ' '] := ParseSpec.allSep_comma (ParseSpec.allSep_sp ParseSpec.allSep_nil)
  .cons (intStr_tok r) sep (by simp) (.cons (intStr_tok g) sep (by simp) (.last (intStr_tok b) ParseSpec.allSep_nil))

/-- `rgb(r, g, b)` is one of the parser's `rgb(…)` texts: what the early tests of `parse_color_to_rgb` find -/
theorem fmtRgbFn_text {cls : CharCls} (hf : AsciiFaithful cls) {named : List (Str × Str)}
    (hk : keysLower named = true) (r g b : Nat) :
    ParseSpec.RgbText cls named (fmtRgbFn ((r : Int), (g : Int), (b : Int))) := by
  -- stated first and rewritten, so that the unifier is not asked to find `rgbBody r g b` under `[] ++ _`
  have h := ParseSpec.rgbFn_text (j0 := []) hf.spec (not_mem_key hk '(' (by decide)) (Or.inl rfl) ParseSpec.allSep_nil
    (rgbBody_sepToks r g b)
  rwa [List.nil_append, ← fmtRgbFn_nat] at h

/-- the tokens `_NUM_RE.findall` returns on `rgb(r, g, b)` -/
theorem fmtRgbFn_tokens {cls : CharCls} (hf : AsciiFaithful cls) (r g b : Nat) :
    NumRe.findAll cls (fmtRgbFn ((r : Int), (g : Int), (b : Int))) =
      [intStr (r : Int), intStr (g : Int), intStr (b : Int)] := by
  have h := ParseSpec.rgbFn_findAll (j0 := []) hf.spec (Or.inl rfl) ParseSpec.allSep_nil (rgbBody_sepToks r g b)
  rw [List.nil_append, ← fmtRgbFn_nat] at h
  -- not `exact h`: against `(intStr ↑r, ↑r, false).1` the unifier unfolds `intStr ↑r` before it projects
  simpa only [List.map_cons, List.map_nil] using h

theorem numberToken_intStr {cls : CharCls} (hf : AsciiFaithful cls) {α : Type} [Num α]
    (named : List (Str × Str)) (n : Nat) (comp : Bool) :
    numberToken (α := α) ⟨cls, named⟩ (intStr (n : Int)) comp =
      rangeToken (Num.ofDecimal false n 0 : α) comp := by
  obtain ⟨hD, hne, hv⟩ := intStr_nat n
  unfold numberToken floatOrValueError
  simp only [ParseSpec.strip_tokChars hf.spec (intStr_tok n).chars,
    ParseSpec.endsWith_of_not_mem (intStr_eq n ▸ (ParseSpec.numeral_nat n).no_pct), parse_digits hf _ hD hne, hv]
  rfl

/-- the carrier reads the decimal text of a byte exactly: `float("n")` lies in `[0, 255]` and rounds
    to `n` (true of `ℚ` by proof, of binary64 because integers below 2^53 are representable) -/
def ByteExact (α : Type) [Num α] : Prop :=
  ∀ n : Nat, n ≤ 255 →
    Num.le (0.0 : α) (Num.ofDecimal false n 0) = true ∧
    Num.le (Num.ofDecimal false n 0) (255.0 : α) = true ∧
    Num.roundHE (Num.ofDecimal false n 0 : α) = (n : Int)

theorem rangeToken_byte {α : Type} [Num α] (hα : ByteExact α) (n : Nat) (hn : n ≤ 255) :
    rangeToken (Num.ofDecimal false n 0 : α) true = .ok (Num.ofDecimal false n 0) := by
  unfold rangeToken
  simp [(hα n hn).1, (hα n hn).2.1]

theorem parseStr_fmtRgbFn {α : Type} [Num α] (hα : ByteExact α) {cls : CharCls} (hf : AsciiFaithful cls)
    (named : List (Str × Str)) (hk : keysLower named = true) (c : RGB) (hc : validRgb c = true)
    (bg : Option RGB) :
    parseStr (α := α) ⟨cls, named⟩ (fmtRgbFn c) bg = .ok c := by
  obtain ⟨r, g, b, hr, hg, hb, rfl⟩ := validRgb_nat c hc
  have F := fmtRgbFn_text hf hk r g b
  have hfind := fmtRgbFn_tokens hf r g b
  have lr := Nat.le_of_lt_succ hr
  have lg := Nat.le_of_lt_succ hg
  have lb := Nat.le_of_lt_succ hb
  have c1 : (0 : Int) ≤ r ∧ (r : Int) ≤ 255 := ⟨Int.natCast_nonneg _, Int.ofNat_le.2 lr⟩
  have c2 : (0 : Int) ≤ g ∧ (g : Int) ≤ 255 := ⟨Int.natCast_nonneg _, Int.ofNat_le.2 lg⟩
  have c3 : (0 : Int) ≤ b ∧ (b : Int) ≤ 255 := ⟨Int.natCast_nonneg _, Int.ofNat_le.2 lb⟩
  -- the dispatch reaches the token branch, the regex returns the tokens, each token reads as its value
  unfold parseStr
  simp only [F.strip, F.lower, F.lookup, F.hash, F.bare, F.hsla, F.hsl, F.rgb, hfind, numberToken_intStr hf named,
    rangeToken_byte hα _ lr, rangeToken_byte hα _ lg, rangeToken_byte hα _ lb, ok_bind,
    (hα _ lr).2.2, (hα _ lg).2.2, (hα _ lb).2.2, Bool.or_self, Bool.true_or,
    Bool.false_eq_true, if_false, if_true]
  simp only [pure, Except.pure, clamp255_id c1, clamp255_id c2, clamp255_id c3, hc, if_true]

/-- the documented shape of `make_readable`'s colour for each detected input format -/
def OutShape {α : Type} (f : Fmt) (out : OutVal α) : Prop :=
  match f with
  | .rgbTuple => ∃ c, out = .tuple c
  | .hsl => ∃ h s l, out = .hsl h s l
  | .rgb => ∃ c, out = .text (fmtRgbFn c)
  | _ => ∃ c, out = .text (fmtHex c)

theorem parseColor_str {α : Type} [Num α] (E : PEnv) (s : Str) (bg : Option RGB) :
    parseColor (α := α) E (.str s) bg = parseStr (α := α) E s bg := rfl

/-- reading `make_readable`'s colour back the way the library does (`Color(...)` for text and tuples,
    `hsl_to_rgb` for the three printed HSL numbers) -/
def readBack {α : Type} [Num α] (E : PEnv) (bg : Option RGB) : OutVal α → Option RGB
  | .hsl h s l => hslTextToRgb (h, s, l)
  | .text s => (parseColor (α := α) E (.str s) bg).toOption
  | .tuple c => (parseColor (α := α) E (.tuple [.int c.1, .int c.2.1, .int c.2.2]) bg).toOption

end FmtRt
end Cm
