import CmModel.Parser
/-!
# `hsl_to_rgb` on three floats, for every carrier

Core Lean only: the tie file `CmProps/C13conv` stays free of Mathlib (a mismatch between the generated image and
the model is then reported quickly), and `ParseSpec` specialises the lemma to the rational carrier.
-/
namespace Cm
namespace Parse
variable {α : Type} [Num α]

/-- `hsl_to_rgb((h, s, l))` on three floats, as `hsla_to_rgb` calls it: the hue is reduced, `s` and `l` are validated
    (twice: by `_parse_hsl_percentage_or_decimal(str(·))` and by the range check) and converted -/
theorem hslSeqToRgb_floats (E : PEnv) (h s l : α) :
    hslSeqToRgb E (.float h) (.float s) (.float l) = hslFinish (Num.pmod h (360.0 : α)) s l := by
  unfold hslSeqToRgb hslFinish hslInRange
  simp only [PyVal.strOf, bind, Except.bind, pure, Except.pure, vErr]
  cases hs : (Num.le (0.0 : α) s && Num.le s (1.0 : α)) <;> cases hl : (Num.le (0.0 : α) l && Num.le l (1.0 : α)) <;> simp [hs, hl]

end Parse
end Cm
