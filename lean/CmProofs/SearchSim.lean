import CmProofs.SearchComplete
/-! Two runs of the multi-phase search that differ in the minimum: the weaker one can only stop earlier, on a passing colour. -/
namespace Cm
variable {α : Type} [Num α]

/-- how the two runs' outcomes for one schedule entry relate: the same, or the weaker run returns a colour that meets its minimum -/
def StepSim (O : Leaf α) (bg : RGB) (m2 : α) (x1 x2 : Except RGB (GS α)) : Prop :=
  x2 = x1 ∨ ∃ b, x2 = .error b ∧ Num.ge (O.contrast b bg) m2 = true

variable [LawfulNumOrd α]

theorem earlyTerm_sim (O : Leaf α) (bg) (m1 m2 thr last : α) (h21 : Num.le m2 m1 = true)
    (s : GS α) (hs : ∀ b, s.best = some b → s.bestC = O.contrast b bg) :
    StepSim O bg m2 (earlyTerm m1 thr last s) (earlyTerm m2 thr last s) := by
  unfold StepSim earlyTerm
  cases hb : s.best with
  | none => exact Or.inl rfl
  | some b =>
    simp only []
    by_cases h2 : (Num.ge s.bestC m2 && Num.le thr (2.5 : α) && Num.le last (5.0 : α)) = true
    · -- the weaker run stops here, on a colour that meets its minimum
      rw [if_pos h2]
      simp only [Bool.and_eq_true] at h2
      exact Or.inr ⟨b, rfl, by rw [← hs b hb]; exact h2.1.1⟩
    · -- it goes on; then so does the stricter run, whose test implies this one
      rw [if_neg h2, if_neg]
      · exact Or.inl rfl
      · intro h1
        simp only [Bool.and_eq_true] at h1 h2
        exact h2 ⟨⟨le_trans' h21 h1.1.1, h1.1.2⟩, h1.2⟩

/-- the phases do not look at the minimum, so the two runs differ only in the early return -/
theorem genStep_sim (O : Leaf α) (d : Descend α) (t bg target m1 m2 last thr)
    (h21 : Num.le m2 m1 = true) (s : GS α) (hs : GMax O t bg s) :
    StepSim O bg m2 (genStep O d t bg target m1 last thr s) (genStep O d t bg target m2 last thr s) := by
  rw [genStep_eq, genStep_eq]
  cases hx : genPhases O d t bg target thr s with
  | error r => exact Or.inl rfl
  | ok s2 =>
    -- after the phases the record is consistent (`GMax`), which is what the early returns are compared under
    obtain ⟨⟨hrec, _⟩, _, _⟩ := (genPhases_spec O d t bg target thr s hs).2 s2 hx
    exact earlyTerm_sim O bg m1 m2 thr last h21 s2 hrec

theorem genLoop_sim (O : Leaf α) (d : Descend α) (t bg target m1 m2 last)
    (h21 : Num.le m2 m1 = true) (rest : List α) (s : GS α) (hs : GMax O t bg s) :
    genLoop O d t bg target m2 last rest s = genLoop O d t bg target m1 last rest s ∨
    Num.ge (O.contrast (genLoop O d t bg target m2 last rest s) bg) m2 = true := by
  induction rest generalizing s with
  | nil => left; rfl
  | cons thr rest ih =>
    unfold genLoop
    rcases genStep_sim O d t bg target m1 m2 last thr h21 s hs with heq | ⟨b, hb, hle⟩
    · rw [heq]
      cases hx : genStep O d t bg target m1 last thr s with
      | error r => left; rfl
      | ok s' => exact ih s' ((genStep_spec O d t bg target m1 last thr s hs).2 s' hx).1
    · rw [hb]; right; exact hle

/-- the two runs of `generate_accessible_color` (same target and schedule, minimum `m2 ≤ m1`) return the same colour, or the
    weaker one returns a colour that meets its minimum -/
theorem genAccessible_sim (O : Leaf α) (d : Descend α) (t bg target m1 m2) (sched : List α)
    (h21 : Num.le m2 m1 = true) :
    genAccessible O d t bg target m2 sched = genAccessible O d t bg target m1 sched ∨
    Num.ge (O.contrast (genAccessible O d t bg target m2 sched) bg) m2 = true := by
  simp only [genAccessible]
  split
  · left; rfl
  · exact genLoop_sim O d t bg target m1 m2 _ h21 sched _ (GMax.init O t bg _)

end Cm
