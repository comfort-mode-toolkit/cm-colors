import CmProofs.SearchComplete
import CmProofs.RatNum
import CmProofs.RealNum
import Mathlib.Data.Rat.Cast.OfScientific
/-!
# Exact carriers: one iteration halves the interval

At a carrier whose arithmetic is that of an ordered field (`FieldCarrier`; `ℚ` with `ratNum`, `ℝ` with `realNum`) every iteration
halves the interval exactly, which makes `Res` a statement about widths (`BandHyp.band`; it stays a hypothesis).
-/
namespace Cm

/-- the carrier's order, `+`, `/` and decimal literals are those of the ordered field `F` -/
structure FieldCarrier {F : Type} [Field F] [LinearOrder F] [IsStrictOrderedRing F] (N : Num F) : Prop where
  le_iff : ∀ a b : F, @Num.le F N a b = true ↔ a ≤ b
  lt_iff : ∀ a b : F, @Num.lt F N a b = true ↔ a < b
  add_eq : ∀ a b : F, @HAdd.hAdd F F F (@instHAdd F N.toAdd) a b = a + b
  div_eq : ∀ a b : F, @HDiv.hDiv F F F (@instHDiv F N.toDiv) a b = a / b
  sci_eq : ∀ m e : ℕ, @OfScientific.ofScientific F N.toOfScientific m true e = (m : F) / 10 ^ e

/-- `s'` lies inside `s` and is `2ⁿ` times narrower -/
structure Shrunk {F : Type} [Field F] [LinearOrder F] [IsStrictOrderedRing F] (s s' : BS F) (n : ℕ) : Prop where
  low_le : s.low ≤ s'.low
  le : s'.low ≤ s'.high
  high_le : s'.high ≤ s.high
  width : s'.high - s'.low = (s.high - s.low) / 2 ^ n

theorem Shrunk.refl {F : Type} [Field F] [LinearOrder F] [IsStrictOrderedRing F] {s : BS F} (hs : s.low ≤ s.high) :
    Shrunk s s 0 :=
  ⟨le_refl _, hs, le_refl _, by rw [pow_zero, div_one]⟩

theorem Shrunk.trans {F : Type} [Field F] [LinearOrder F] [IsStrictOrderedRing F] {s s' s'' : BS F} {m n : ℕ}
    (h1 : Shrunk s s' m) (h2 : Shrunk s' s'' n) : Shrunk s s'' (m + n) :=
  ⟨h1.low_le.trans h2.low_le, h2.le, h2.high_le.trans h1.high_le, by rw [h2.width, h1.width, div_div, ← pow_add]⟩

section field
variable {F : Type} [Field F] [LinearOrder F] [IsStrictOrderedRing F] {N : Num F} (FC : FieldCarrier N)
include FC

theorem FieldCarrier.lawful : @LawfulNumOrd F N :=
  @LawfulNumOrd.mk F N
    (fun a => (FC.le_iff a a).2 (le_refl a))
    (fun a b c h1 h2 => (FC.le_iff a c).2 (le_trans ((FC.le_iff a b).1 h1) ((FC.le_iff b c).1 h2)))
    (fun a b => (le_total a b).imp (FC.le_iff a b).2 (FC.le_iff b a).2)
    (fun a b => by rw [FC.lt_iff, ← not_le, ← FC.le_iff, Bool.not_eq_true])

theorem FieldCarrier.lit : @LawfulLit F N :=
  @LawfulLit.mk F N (fun m e m' e' h => by
    rw [FC.le_iff, FC.sci_eq, FC.sci_eq]
    have h10 : (0 : F) < 10 := by norm_num
    rw [div_le_div_iff₀ (pow_pos h10 e) (pow_pos h10 e')]
    exact_mod_cast h)

theorem FieldCarrier.mid (s : BS F) : @bsMid F N s = (s.low + s.high) / 2 := by
  unfold bsMid
  rw [FC.div_eq, FC.add_eq, FC.sci_eq]
  norm_num

theorem FieldCarrier.lit_zero : @OfScientific.ofScientific F N.toOfScientific 0 true 1 = 0 := by
  rw [FC.sci_eq]; norm_num

theorem FieldCarrier.lit_one : @OfScientific.ofScientific F N.toOfScientific 10 true 1 = 1 := by
  rw [FC.sci_eq]; norm_num

variable (O : Leaf F) (t bg : RGB) (thr target c h : F)

/-- at an exact carrier one iteration replaces exactly one end of the interval by the midpoint -/
theorem bsStep_halves (up : Bool) (s : BS F) :
    let s' := @bsStep F N O t bg thr target c h up s
    (s'.low = (s.low + s.high) / 2 ∧ s'.high = s.high) ∨ (s'.low = s.low ∧ s'.high = (s.low + s.high) / 2) := by
  intro s'
  rw [← FC.mid]
  by_cases hc : @Acc F N O t thr c h (@bsMid F N s) ∧ ¬ @Meets F N O bg target c h (@bsMid F N s)
  · cases up
    · exact Or.inr ((@bsStep_spec F N O t bg thr target c h false s).away hc)
    · exact Or.inl ((@bsStep_spec F N O t bg thr target c h true s).away hc)
  · cases up
    · exact Or.inl ((@bsStep_spec F N O t bg thr target c h false s).towards hc)
    · exact Or.inr ((@bsStep_spec F N O t bg thr target c h true s).towards hc)

theorem bsStep_shrinks (up : Bool) (s : BS F) (hs : s.low ≤ s.high) :
    Shrunk s (@bsStep F N O t bg thr target c h up s) 1 ∧ s.low ≤ @bsMid F N s ∧ @bsMid F N s ≤ s.high := by
  rw [FC.mid]
  have hm1 : s.low ≤ (s.low + s.high) / 2 := by linarith
  have hm2 : (s.low + s.high) / 2 ≤ s.high := by linarith
  refine ⟨?_, hm1, hm2⟩
  rcases bsStep_halves FC O t bg thr target c h up s with ⟨e1, e2⟩ | ⟨e1, e2⟩
  · exact ⟨e1 ▸ hm1, e1 ▸ e2 ▸ hm2, e2 ▸ le_refl _, by rw [e1, e2, pow_one]; ring⟩
  · exact ⟨e1 ▸ le_refl _, e1 ▸ e2 ▸ hm1, e2 ▸ hm2, by rw [e1, e2, pow_one]; ring⟩

theorem bsLoop_shrunk (up : Bool) (n : Nat) (s : BS F) (hs : s.low ≤ s.high) :
    Shrunk s (@bsLoop F N O t bg thr target c h up n s) n ∧
    ∀ m ∈ (@bsLoopTrace F N O t bg thr target c h up n s).2, s.low ≤ m ∧ m ≤ s.high := by
  induction n generalizing s with
  | zero => exact ⟨.refl hs, fun m hm => absurd hm List.not_mem_nil⟩
  | succ n ih =>
    obtain ⟨hstep, hprobe⟩ := bsStep_shrinks FC O t bg thr target c h up s hs
    obtain ⟨hrest, hprobes⟩ := ih _ hstep.le
    have hall := hstep.trans hrest
    rw [Nat.add_comm] at hall
    refine ⟨hall, fun m hm => ?_⟩
    simp only [bsLoopTrace, List.mem_cons] at hm
    rcases hm with rfl | hm
    · exact hprobe
    · exact ⟨hstep.low_le.trans (hprobes m hm).1, (hprobes m hm).2.trans hstep.high_le⟩

/-- the starting interval of `binarySearch`: from the text's lightness to `1.0` when searching up, from `0.0` to it when
    searching down -/
theorem bsStart_low_high :
    (@bsStart F N O t bg).low = (if @bsUp F N O t bg then (O.toOklch t).1 else 0) ∧
    (@bsStart F N O t bg).high = (if @bsUp F N O t bg then 1 else (O.toOklch t).1) := by
  unfold bsStart bsInit
  simp only
  constructor
  · split
    · rfl
    · exact FC.lit_zero
  · split
    · exact FC.lit_one
    · rfl

/-- `Mono` + `DirOK` + `Res` for one call of the lightness search at level `v` -/
structure BandHyp (v : F) : Prop where
  l_ge : 0 ≤ (O.toOklch t).1
  l_le : (O.toOklch t).1 ≤ 1
  /-- `Mono` and `DirOK`, on the searched interval and for the direction the code computes -/
  mono : @MonoOn F N O t bg thr (@bsC F O t) (@bsH F O t) (@bsUp F N O t bg)
    (fun x => (@bsStart F N O t bg).low ≤ x ∧ x ≤ (@bsStart F N O t bg).high)
  /-- `Res`: two band points in the searched interval more than `2⁻²⁰` apart (20 iterations on a starting interval of width
      at most 1, by `l_ge`, `l_le`) -/
  band : ∃ a b, (@bsStart F N O t bg).low ≤ a ∧ b ≤ (@bsStart F N O t bg).high ∧
    @Hit F N O t bg thr (@bsC F O t) (@bsH F O t) v a ∧
    @Hit F N O t bg thr (@bsC F O t) (@bsH F O t) v b ∧ 1 / 2 ^ 20 < b - a

end field

/-- `rat_sci`/`real_sci` say the carriers' literals are Lean's/Mathlib's `OfScientific`; these two say that those are the quotient -/
theorem q_sci (m e : ℕ) : (OfScientific.ofScientific m true e : ℚ) = (m : ℚ) / 10 ^ e := by
  show Rat.ofScientific m true e = _
  rw [Rat.ofScientific_true_def, Rat.mkRat_eq_div]
  push_cast
  rfl

theorem r_sci (m e : ℕ) : (OfScientific.ofScientific m true e : ℝ) = (m : ℝ) / 10 ^ e := by
  rw [← Rat.cast_ofScientific, q_sci]
  push_cast
  rfl

theorem ratFieldCarrier : FieldCarrier ratNum :=
  ⟨rat_le, rat_lt, rat_add, rat_div, fun m e => by rw [rat_sci]; exact q_sci m e⟩

theorem realFieldCarrier : FieldCarrier realNum.toNum :=
  ⟨real_le, real_lt, real_add, real_div, fun m e => by rw [real_sci]; exact r_sci m e⟩

end Cm
