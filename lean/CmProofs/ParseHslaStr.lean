import CmProofs.ParseTok
/-!
# `hsla(…)` strings: from the text to the compositing step (ASCII oracle, exact carrier)

(The shared lemmas of `ParseTok` are for any faithful oracle; here they are used at `asciiFaithful_ascii`.)
`splitOn`; `HslaSeg g x` — one comma-separated segment `g` with its item `x` — and `hsla_parts` (the
content to its four segments); `hsla_string` (the items to `hslaFinish`).
-/
namespace Cm.ParseSpec
open Cm Cm.Parse

theorem splitOn_go_acc (c : Char) : ∀ (s cur : Str) (acc : List Str),
    Str.splitOn.go c s cur acc = acc.reverse ++ Str.splitOn.go c s cur [] := by
  intro s
  induction s with
  | nil => intro cur acc; simp [Str.splitOn.go]
  | cons x xs ih =>
    intro cur acc
    simp only [Str.splitOn.go]
    split
    · rw [ih [] (cur.reverse :: acc), ih [] [cur.reverse]]; simp
    · exact ih (x :: cur) acc

theorem splitOn_go_seg {c : Char} {seg : Str} (hseg : c ∉ seg) (xs cur : Str) (acc : List Str) :
    Str.splitOn.go c (seg ++ xs) cur acc = Str.splitOn.go c xs (seg.reverse ++ cur) acc := by
  induction seg generalizing cur with
  | nil => rfl
  | cons x t ih =>
    have hx : x ≠ c := fun e => hseg (e ▸ List.mem_cons_self)
    rw [List.cons_append]
    simp only [Str.splitOn.go, hx, if_false]
    rw [ih (fun hm => hseg (List.mem_cons_of_mem _ hm))]
    simp

theorem splitOn_seg_sep {c : Char} {seg : Str} (hseg : c ∉ seg) (rest : Str) :
    Str.splitOn (seg ++ c :: rest) c = seg :: Str.splitOn rest c := by
  unfold Str.splitOn
  rw [splitOn_go_seg hseg]
  simp only [Str.splitOn.go, if_true, List.append_nil, List.reverse_reverse]
  rw [splitOn_go_acc]; rfl

theorem splitOn_seg_end {c : Char} {seg : Str} (hseg : c ∉ seg) : Str.splitOn seg c = [seg] := by
  unfold Str.splitOn
  have := splitOn_go_seg hseg [] [] []
  rw [List.append_nil] at this
  rw [this]
  simp [Str.splitOn.go]

theorem AllSp.isSpace {w : Str} (h : AllSp w) : ∀ c ∈ w, asciiCls.isSpace c = true := by
  intro c hc; rw [h c hc]; decide

theorem AllSp.not_mem {w : Str} (h : AllSp w) {c : Char} (hc : c ≠ ' ') : c ∉ w :=
  fun hm => hc (h c hm)

/-- what `parse_color_to_rgb` and `hsla_to_rgb` find out about `hsla(…)` before the numbers -/
structure HslaShape (s body : Str) : Prop where
  strip : Str.strip asciiCls s = s
  lower : Str.lower asciiCls s = s
  lookup : lookupNamed ⟨asciiCls, namedEnv⟩ s = none
  hash : Str.startsWith s ['#'] = false
  bare : isBareHex s = false
  hsla : Str.startsWith s "hsla(".toList = true
  close : Str.endsWith s [')'] = true
  inner : (s.drop 5).dropLast = body

theorem hslaShape {body : Str} (hbody : ∀ c ∈ body, LowerFixed c) :
    HslaShape ("hsla(".toList ++ body ++ [')']) body := by
  rw [lit_hsla]
  have F := fnText asciiFaithful_ascii (namedEnv_nonletter (by decide)) (pre := ['h', 's', 'l', 'a', '(']) (by decide) hbody
  exact ⟨F.strip, F.lower, F.lookup, F.hash, F.bare, by rw [lit_hsla]; rfl, F.close, F.inner⟩

def HslaChar (c : Char) : Prop := TokChar c ∨ c = ' ' ∨ c = ','

theorem hslaChar_low {c : Char} (h : HslaChar c) : LowerFixed c := by
  rcases h with h | rfl | rfl
  · exact tokChar_low h
  all_goals exact ⟨by decide, by decide⟩

theorem hslaChar_ne_slash {c : Char} (h : HslaChar c) : c ≠ '/' := by
  rcases h with h | rfl | rfl
  · exact (tokCharFacts h).ne_slash
  all_goals decide

theorem sp_hslaChars {w : Str} (h : AllSp w) : ∀ c ∈ w, HslaChar c :=
  fun c hc => Or.inr (Or.inl (h c hc))

theorem NumTok.unpct {t : Str} {v : ℚ} {p : Bool} (h : NumTok t v p) :
    ∃ b, Numeral b v ∧ Str.replaceChar t '%' [] = b := by
  cases h with
  | plain h => exact ⟨t, h, replaceChar_absent h.no_pct _⟩
  | pct h =>
    rename_i b
    refine ⟨b, h, ?_⟩
    rw [replaceChar_append, replaceChar_absent h.no_pct]
    simp [Str.replaceChar]

theorem strip_wrapped_sp {w1 t w2 : Str} (h1 : AllSp w1) (h2 : AllSp w2)
    (ht : Str.strip asciiCls t = t) : Str.strip asciiCls (w1 ++ (t ++ w2)) = t := by
  rw [← List.append_assoc, strip_ws_append asciiCls w1 t w2 h1.isSpace h2.isSpace, ht]

/-- what `hsla_to_rgb` needs to know about one comma-separated segment `g` and its item `x` -/
structure HslaSeg (g x : Str) : Prop where
  strip : Str.strip asciiCls g = x
  no_comma : ',' ∉ g
  chars : ∀ c ∈ g, HslaChar c

theorem hslaSeg {w x w' : Str} (hw : AllSp w) (hx : ∀ c ∈ x, TokChar c) (hw' : AllSp w') :
    HslaSeg (w ++ (x ++ w')) x := by
  refine ⟨strip_wrapped_sp hw hw' (strip_tokChars asciiFaithful_ascii hx), ?_, ?_⟩
  · intro hm
    rcases List.mem_append.1 hm with h | h
    · exact hw.not_mem (by decide) h
    · rcases List.mem_append.1 h with h | h
      · exact (tokCharFacts (hx _ h)).ne_comma rfl
      · exact hw'.not_mem (by decide) h
  · exact List.forall_mem_append.2 ⟨sp_hslaChars hw,
      List.forall_mem_append.2 ⟨fun c hc => Or.inl (hx c hc), sp_hslaChars hw'⟩⟩

/-- the content of `hsla(…)` is in lower case, and `hsla_to_rgb` cuts it into the four segments -/
theorem hsla_parts {w0 w7 g0 g1 g2 g3 x0 x1 x2 x3 : Str} (s0 : AllSp w0) (s7 : AllSp w7)
    (G0 : HslaSeg g0 x0) (G1 : HslaSeg g1 x1) (G2 : HslaSeg g2 x2) (G3 : HslaSeg g3 x3)
    (hne : g0 ≠ []) (hh : asciiIsSpace (g0.head hne) = false)
    (hne3 : g3 ≠ []) (hl : asciiIsSpace (g3.getLast hne3) = false) :
    (∀ c ∈ w0 ++ ((g0 ++ ',' :: (g1 ++ ',' :: (g2 ++ ',' :: g3))) ++ w7), LowerFixed c) ∧
    Str.splitOn (Str.replaceChar (Str.strip asciiCls
      (w0 ++ ((g0 ++ ',' :: (g1 ++ ',' :: (g2 ++ ',' :: g3))) ++ w7))) '/' [',']) ',' =
      [g0, g1, g2, g3] := by
  have comma : HslaChar ',' := Or.inr (Or.inr rfl)
  have hchars : ∀ c ∈ g0 ++ ',' :: (g1 ++ ',' :: (g2 ++ ',' :: g3)), HslaChar c := by
    -- one conjunct per segment and per comma, in the order of the text
    simp only [List.forall_mem_append, List.forall_mem_cons]
    exact ⟨G0.chars, comma, G1.chars, comma, G2.chars, comma, G3.chars⟩
  have hmid : Str.strip asciiCls (g0 ++ ',' :: (g1 ++ ',' :: (g2 ++ ',' :: g3))) =
      g0 ++ ',' :: (g1 ++ ',' :: (g2 ++ ',' :: g3)) := by
    apply strip_fixed_of asciiCls _ (List.append_ne_nil_of_left_ne_nil hne _)
    · rw [List.head_append_of_ne_nil hne]; exact hh
    · show asciiIsSpace _ = false
      simpa [List.getLast_append_of_ne_nil, hne3] using hl
  have l0 : ∀ c ∈ w0, LowerFixed c := fun c hc => hslaChar_low (sp_hslaChars s0 c hc)
  have lmid : ∀ c ∈ g0 ++ ',' :: (g1 ++ ',' :: (g2 ++ ',' :: g3)), LowerFixed c := fun c hc => hslaChar_low (hchars c hc)
  have l7 : ∀ c ∈ w7, LowerFixed c := fun c hc => hslaChar_low (sp_hslaChars s7 c hc)
  refine ⟨low_append l0 (low_append lmid l7), ?_⟩
  rw [strip_wrapped_sp s0 s7 hmid, replaceChar_absent fun hm => hslaChar_ne_slash (hchars _ hm) rfl,
    splitOn_seg_sep G0.no_comma, splitOn_seg_sep G1.no_comma, splitOn_seg_sep G2.no_comma,
    splitOn_seg_end G3.no_comma]

/-- `hsla(H, S%, L%, A)`: commas between the four items, blanks anywhere around them. A `%` after `A` is simply
    dropped (`p3` does not occur on the right: `0.5%` reads as 0.5) -/
theorem hsla_string {w0 w1 w2 w3 w4 w5 w6 w7 sgn hb sb lb t3 : Str} {neg p3 : Bool} {vh vs vl va : ℚ}
    (hs : SignOf sgn neg) (hH : Numeral hb vh) (hS : Numeral sb vs) (hL : Numeral lb vl)
    (hA : NumTok t3 va p3)
    (s0 : AllSp w0) (s1 : AllSp w1) (s2 : AllSp w2) (s3 : AllSp w3) (s4 : AllSp w4) (s5 : AllSp w5)
    (s6 : AllSp w6) (s7 : AllSp w7) (bg : Option RGB) :
    @parseStr ℚ ratNum ⟨asciiCls, namedEnv⟩
        ("hsla(".toList ++
          (w0 ++ ((((sgn ++ hb) ++ w1) ++ ',' :: ((w2 ++ ((sb ++ ['%']) ++ w3)) ++ ',' ::
            ((w4 ++ ((lb ++ ['%']) ++ w5)) ++ ',' :: (w6 ++ t3)))) ++ w7)) ++ [')']) bg =
      @hslaFinish ℚ ratNum (pmodQ (if neg then -vh else vh) 360) (vs / 100) (vl / 100)
        (if va ≤ 1 then va else va / 100) bg := by
  have G0 : HslaSeg ((sgn ++ hb) ++ w1) (sgn ++ hb) :=
    hslaSeg allSp_nil (signed_chars hs hH) s1
  have G1 : HslaSeg (w2 ++ ((sb ++ ['%']) ++ w3)) (sb ++ ['%']) :=
    hslaSeg s2 (NumTok.pct hS).chars s3
  have G2 : HslaSeg (w4 ++ ((lb ++ ['%']) ++ w5)) (lb ++ ['%']) :=
    hslaSeg s4 (NumTok.pct hL).chars s5
  have G3 : HslaSeg (w6 ++ t3) t3 := by
    have := hslaSeg s6 hA.chars allSp_nil
    rwa [List.append_nil] at this
  obtain ⟨hbody, hparts⟩ := hsla_parts s0 s7 G0 G1 G2 G3
    (List.append_ne_nil_of_left_ne_nil (signed_ne_nil hH) _)
    (signed_head asciiFaithful_ascii hs hH _ _)
    (List.append_ne_nil_of_right_ne_nil _ hA.ne_nil)
    (by rw [List.getLast_append_of_ne_nil _ hA.ne_nil]
        exact (tokCharFacts (hA.chars _ (List.getLast_mem _))).notSpace)
  have S := hslaShape hbody
  have rp0 : Str.replaceChar (sgn ++ hb) '%' [] = sgn ++ hb :=
    replaceChar_absent (signed_no_pct hs hH) _
  obtain ⟨_, hS', rp1⟩ := (NumTok.pct hS).unpct
  obtain ⟨_, hL', rp2⟩ := (NumTok.pct hL).unpct
  obtain ⟨ab, hA', rp3⟩ := hA.unpct
  unfold parseStr
  simp only [S.strip, S.lower, S.lookup, S.hash, S.bare, S.hsla, Bool.or_self, Bool.false_eq_true,
    if_false, if_true]
  unfold hslaStrToRgb
  simp only [S.strip, S.lower, S.hsla, S.close, S.inner, Bool.and_self, Bool.not_true,
    Bool.false_eq_true, if_false, hparts, List.map_cons, List.map_nil, G0.strip, G1.strip, G2.strip,
    G3.strip, rp0, rp1, rp2, rp3, hH.parse asciiFaithful_ascii hs, hS'.parse_pos asciiFaithful_ascii,
    hL'.parse_pos asciiFaithful_ascii, hA'.parse_pos asciiFaithful_ascii]
  have ne1 : ∀ {b : Str} {v : ℚ}, Numeral b v → b.isEmpty = false := fun h =>
    List.isEmpty_eq_false_iff.2 h.ne_nil
  simp only [ne1 hS', ne1 hL', Bool.false_eq_true, if_false, bind, Except.bind, pure, Except.pure,
    rat_div, rat_le, lit360, lit100, lit1]

end Cm.ParseSpec
