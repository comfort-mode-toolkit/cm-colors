import CmModel.Cert
import CmProofs.WcagReal
import Mathlib.Data.Rat.Cast.Order
/-!
# Soundness of the certified WCAG verdict (`CmModel/Cert.lean`)

The table is not trusted: one kernel evaluation (`linTable_rows`) checks every row, the power rows in the form
`lo^5 ≤ x^12 ≤ hi^5`. The enclosures of luminance, numerator and denominator, and the verdict, follow over ℝ.
-/
namespace Cm
open Real

/-- the sRGB linearisation over ℝ under the name the statements about the table use; it is `lin` -/
noncomputable def linR (c : ℝ) : ℝ :=
  if c ≤ 0.04045 then c / 12.92 else ((c + 0.055) / 1.055) ^ (2.4 : ℝ)

theorem linR_eq_lin : linR = lin := rfl

/-- what is asked of row `v`: exact on the linear branch (`v ≤ 10`), otherwise an enclosure of `x ^ 2.4`,
`x = (v/255+0.055)/1.055`, in the form `lo^5 ≤ x^12 ≤ hi^5`; `1e-15` bounds the width (the generated rows are `1e-18`
wide) -/
structure RowOk (v : Nat) (lo hi : ℚ) : Prop where
  lo_nonneg : 0 ≤ lo
  width : hi - lo ≤ 1 / 10 ^ 15
  encloses : if v < 11 then lo = (v : ℚ) / 255 / (1292 / 100) ∧ hi = lo
    else lo ^ 5 ≤ linArg v ^ 12 ∧ linArg v ^ 12 ≤ hi ^ 5

instance (v : Nat) (lo hi : ℚ) : Decidable (RowOk v lo hi) :=
  decidable_of_iff (_ ∧ _ ∧ _) ⟨fun ⟨a, b, c⟩ => ⟨a, b, c⟩, fun h => ⟨h.lo_nonneg, h.width, h.encloses⟩⟩

theorem linArg_cast (v : Nat) : ((linArg v : ℚ) : ℝ) = ((v : ℝ) / 255 + 0.055) / 1.055 := by
  unfold linArg; push_cast; ring

theorem RowOk.sound {v : Nat} {lo hi : ℚ} (h : RowOk v lo hi) :
    (lo : ℝ) ≤ linR ((v : ℝ) / 255) ∧ linR ((v : ℝ) / 255) ≤ (hi : ℝ) := by
  have h := h.encloses
  have hcut : (v : ℝ) / 255 ≤ 0.04045 ↔ v < 11 := by
    rw [← Int.cast_natCast, chan_le_cut]; omega
  unfold linR
  by_cases h10 : v < 11
  · rw [if_pos h10] at h
    rw [if_pos (hcut.2 h10), h.2, h.1]; push_cast; norm_num
  · rw [if_neg h10] at h
    have hx : (0 : ℝ) ≤ ((v : ℝ) / 255 + 0.055) / 1.055 := by positivity
    rw [if_neg (fun hc => h10 (hcut.1 hc))]
    rw [← linArg_cast] at hx ⊢
    exact (rpow_12_5_bounds hx).2 (by exact_mod_cast h)

/-- the rows are walked as a list, once: `linLo v` looks row `v` up from the start of the table, so a sweep over `v`
would walk it 256 times -/
theorem linTable_rows : linTable.size = 256 ∧ ∀ row ∈ linTable.toList.zipIdx, RowOk row.2 row.1.1 row.1.2 := by
  decide +kernel

theorem linTable_rowOk (v : Nat) (hv : v ≤ 255) : RowOk v (linLo v) (linHi v) := by
  have hs : v < linTable.size := by rw [linTable_rows.1]; omega
  have := linTable_rows.2 (linTable[v], v) (List.mem_zipIdx_iff_getElem?.2 (by simp [hs]))
  simpa [linLo, linHi, Array.getD, hs] using this

theorem linTable_sound (v : Nat) (hv : v ≤ 255) :
    ((linLo v : ℚ) : ℝ) ≤ linR ((v : ℝ) / 255) ∧ linR ((v : ℝ) / 255) ≤ ((linHi v : ℚ) : ℝ) :=
  (linTable_rowOk v hv).sound

/-- the same, phrased with the model's own functions at the real carrier -/
theorem linTable_sound_model (v : Nat) (hv : v ≤ 255) :
    ((linLo v : ℚ) : ℝ) ≤ @srgbToLinear ℝ realNum (@chan ℝ realNum (v : ℤ)) ∧
    @srgbToLinear ℝ realNum (@chan ℝ realNum (v : ℤ)) ≤ ((linHi v : ℚ) : ℝ) := by
  rw [chan_real, srgbToLinear_real, ← linR_eq_lin, Int.cast_natCast]
  exact linTable_sound v hv

theorem linTable_sound_chan {x : ℤ} (h0 : 0 ≤ x) (h1 : x ≤ 255) :
    ((linLo x.toNat : ℚ) : ℝ) ≤ linChan x ∧ linChan x ≤ ((linHi x.toNat : ℚ) : ℝ) := by
  have := linTable_sound x.toNat (by omega)
  rwa [linR_eq_lin, ← Int.cast_natCast, Int.toNat_of_nonneg h0, ← linChan_def] at this

theorem lumQ_cast (x y z : ℚ) :
    (((2126 / 10000 : ℚ) * x + (7152 / 10000 : ℚ) * y + (722 / 10000 : ℚ) * z : ℚ) : ℝ)
      = lumW ((x : ℝ), (y : ℝ), (z : ℝ)) := by
  unfold lumW; push_cast; ring

theorem lum_sound (c : RGB) (hc : validRgb c = true) :
    ((lumLo c : ℚ) : ℝ) ≤ @luminance ℝ realNum c ∧ @luminance ℝ realNum c ≤ ((lumHi c : ℚ) : ℝ) := by
  obtain ⟨⟨r0, r1⟩, ⟨g0, g1⟩, ⟨b0, b1⟩⟩ := (validRgb_iff c).1 hc
  have Hr := linTable_sound_chan r0 r1
  have Hg := linTable_sound_chan g0 g1
  have Hb := linTable_sound_chan b0 b1
  rw [luminance_eq_lumW]
  exact ⟨(lumQ_cast _ _ _).trans_le (lumW_strictMono.monotone ⟨Hr.1, Hg.1, Hb.1⟩),
    (lumW_strictMono.monotone ⟨Hr.2, Hg.2, Hb.2⟩).trans_eq (lumQ_cast _ _ _).symm⟩

theorem rmax_cast (p q : ℚ) : ((rmax p q : ℚ) : ℝ) = max (p : ℝ) (q : ℝ) := by
  rw [rmax, ← max_def, Rat.cast_max]

theorem rmin_cast (p q : ℚ) : ((rmin p q : ℚ) : ℝ) = min (p : ℝ) (q : ℝ) := by
  rw [rmin, ← min_def, Rat.cast_min]

theorem num_den_sound (a b : RGB) (ha : validRgb a = true) (hb : validRgb b = true) :
    let N := max (@luminance ℝ realNum a) (@luminance ℝ realNum b) + 0.05
    let D := min (@luminance ℝ realNum a) (@luminance ℝ realNum b) + 0.05
    ((numLo a b : ℚ) : ℝ) ≤ N ∧ N ≤ ((numHi a b : ℚ) : ℝ) ∧
    ((denLo a b : ℚ) : ℝ) ≤ D ∧ D ≤ ((denHi a b : ℚ) : ℝ) ∧ 0 < D ∧ 0 < N := by
  intro N D
  obtain ⟨a1, a2⟩ := lum_sound a ha
  obtain ⟨b1, b2⟩ := lum_sound b hb
  have pa := luminance_nonneg ha
  have pb := luminance_nonneg hb
  have e5 : (((5 : ℚ) / 100 : ℚ) : ℝ) = 0.05 := by push_cast; norm_num
  simp only [numLo, numHi, denLo, denHi, Rat.cast_add, rmax_cast, rmin_cast, e5]
  exact ⟨add_le_add (max_le_max a1 b1) le_rfl, add_le_add (max_le_max a2 b2) le_rfl,
    add_le_add (min_le_min a1 b1) le_rfl, add_le_add (min_le_min a2 b2) le_rfl,
    ratio_den_pos (le_min pa pb), ratio_den_pos (le_max_of_le_left pa)⟩

theorem lumLo_nonneg (c : RGB) (hc : validRgb c = true) : 0 ≤ lumLo c := by
  obtain ⟨⟨r0, r1⟩, ⟨g0, g1⟩, ⟨b0, b1⟩⟩ := (validRgb_iff c).1 hc
  have hr := (linTable_rowOk c.1.toNat (by omega)).lo_nonneg
  have hg := (linTable_rowOk c.2.1.toNat (by omega)).lo_nonneg
  have hb := (linTable_rowOk c.2.2.toNat (by omega)).lo_nonneg
  unfold lumLo
  exact add_nonneg (add_nonneg (mul_nonneg (by norm_num) hr) (mul_nonneg (by norm_num) hg))
    (mul_nonneg (by norm_num) hb)

theorem denLo_pos (a b : RGB) (ha : validRgb a = true) (hb : validRgb b = true) :
    0 < denLo a b := by
  rw [denLo, rmin, ← min_def]
  exact add_pos_of_nonneg_of_pos (le_min (lumLo_nonneg a ha) (lumLo_nonneg b hb)) (by norm_num)

theorem le_div_of_enclosure {t N D nLo dHi : ℝ} (hD : 0 < D) (ht : 0 ≤ t) (n1 : nLo ≤ N) (d2 : D ≤ dHi)
    (h : t * dHi ≤ nLo) : t ≤ N / D :=
  (le_div_iff₀ hD).2 (((mul_le_mul_of_nonneg_left d2 ht).trans h).trans n1)

theorem div_lt_of_enclosure {t N D nHi dLo : ℝ} (hD : 0 < D) (ht : 0 ≤ t) (n2 : N ≤ nHi) (d1 : dLo ≤ D)
    (h : nHi < t * dLo) : N / D < t :=
  (div_lt_iff₀ hD).2 ((n2.trans_lt h).trans_le (mul_le_mul_of_nonneg_left d1 ht))

/-- a `some v` answer is the truth value of `thr ≤ contrast_ratio(a, b)` for the real-number contrast ratio -/
theorem certVerdict_sound (a b : RGB) (thr : ℚ) (v : Bool) :
    certVerdict a b thr = some v → ((thr : ℝ) ≤ @contrastRatio ℝ realNum a b ↔ v = true) := by
  unfold certVerdict
  by_cases hval : (validRgb a && validRgb b) = true
  swap
  · rw [if_neg hval]; intro h; cases h
  rw [if_pos hval]
  obtain ⟨ha, hb⟩ := Bool.and_eq_true_iff.1 hval
  obtain ⟨n1, n2, d1, d2, dpos, npos⟩ := num_den_sound a b ha hb
  rw [contrastRatio_real]
  split_ifs with ht hT hF
  -- `thr ≤ 0`: true, the ratio is positive
  · rintro ⟨⟩
    exact iff_of_true (le_trans (by exact_mod_cast ht) (div_pos npos dpos).le) rfl
  -- `thr * denHi ≤ numLo`: true
  · rintro ⟨⟩
    have ht' : (0 : ℝ) ≤ thr := by exact_mod_cast (lt_of_not_ge ht).le
    exact iff_of_true (le_div_of_enclosure dpos ht' n1 d2 (by exact_mod_cast hT)) rfl
  -- `numHi < thr * denLo`: false
  · rintro ⟨⟩
    have ht' : (0 : ℝ) ≤ thr := by exact_mod_cast (lt_of_not_ge ht).le
    exact iff_of_false (not_le.2 (div_lt_of_enclosure dpos ht' n2 d1 (by exact_mod_cast hF)))
      Bool.false_ne_true
  -- undecided: `none`
  · rintro ⟨⟩

/-- for reporting: on valid input the verdict is `none` only if `thr` lies in the rational enclosure of the ratio -/
theorem certVerdict_none (a b : RGB) (thr : ℚ) (ha : validRgb a = true) (hb : validRgb b = true)
    (h : certVerdict a b thr = none) :
    numLo a b < thr * denHi a b ∧ thr * denLo a b ≤ numHi a b := by
  unfold certVerdict at h
  rw [if_pos (by simp [ha, hb])] at h
  split_ifs at h with ht hT hF
  exact ⟨lt_of_not_ge hT, le_of_not_gt hF⟩

end Cm
