import CmProofs.CliTree
/-!
# What the CSS rewriter reports and writes

What a single rule reports and writes when the tool adjusts it (`tunedStep_ok_direct`, `tunedStep_ok_var`) and how a successful result arises (`processRule_ok`);
from there what every output rule is: every visited rule of a written file is the result of one `processRule` step
(`RuleStepped`, `processFile_stepped`, stated with `relNode`), and every block left in the state is written at its rule's place
(`processFile_written_root`).
-/
namespace Cm.Cli

/-- direct rewrite of the declaration -/
theorem tunedStep_ok_direct (env : CliEnv) (cfg : Cfg) (top : Option Nat) (sel : Str) (items0 : List Item) (st : St)
    (ci : Nat) (cd : Decl) (hl : lastDecl (seenItems top items0 st) "color".toList = some (ci, cd))
    (hdirect : viaVarOf env st (strip env cd.value) = none)
    (items' : List Item) (st' : St) (hok : tunedStep env cfg top sel items0 st ci cd = .ok (items', st')) :
    let v := (evalOf env cfg st (seenItems top items0 st) cd).tuned
    items' = setDeclValue (seenItems top items0 st) ci v ∧
    lastDecl items' "color".toList = some (ci, { cd with value := v ++ cd.comments }) ∧
    st'.vars = st.vars ∧
    (∀ i, top = some i → getRoot st i ≠ none → getRoot st' i = some items') ∧
    (sharedOf top st = none → st'.rootDecls = st.rootDecls) := by
  simp only [tunedStep, hdirect] at hok
  split at hok
  next hraised => cases hok
  next hserialised =>
    cases hok
    refine ⟨rfl, lastDecl_setDeclValue _ _ _ _ _ hl, ?vars, ?shared, ?roots⟩
    case vars => unfold shareBack; split <;> rfl
    case shared =>
      intro i hi hne
      subst hi
      cases hg : getRoot st i with
      | none => exact (hne hg).elim
      | some its =>
        have hsh : sharedOf (some i) st = some (i, its) := by simp only [sharedOf, hg, Option.map]
        unfold shareBack; rw [hsh]
        simp only
        rw [getRoot_setRoot]
        simp only [if_true]
        show Option.map _ (getRoot st i) = _
        rw [hg]; rfl
    case roots => intro hs; unfold shareBack; rw [hs]; rfl

/-- rewrite through `var(--name)`: of the table entry and of the defining declaration -/
theorem tunedStep_ok_var (env : CliEnv) (cfg : Cfg) (top : Option Nat) (sel : Str) (items0 : List Item) (st : St)
    (ci : Nat) (cd : Decl) (name : Str) (d : VarDef) (hvar : viaVarOf env st (strip env cd.value) = some (name, d))
    (items' : List Item) (st' : St) (hok : tunedStep env cfg top sel items0 st ci cd = .ok (items', st')) :
    let v := (evalOf env cfg st (seenItems top items0 st) cd).tuned
    lookupVar st'.vars name = some { d with value := v } ∧
    (∀ its, getRoot st d.rule = some its → getRoot st' d.rule = some (setDeclValue its d.item v)) ∧
    items' = seenItems top items0 st' := by
  simp only [tunedStep, hvar] at hok
  cases hok
  refine ⟨lookupVar_rewriteVar_self (st1 := tuneSt st _) (viaVarOf_some hvar).2.2 _, ?block, ?items⟩
  case block =>
    intro its hg
    rw [getRoot_rewriteVar]
    show (match getRoot st d.rule with | some its => _ | none => _) = _
    rw [hg]; simp
  case items =>
    cases top with  -- the shared block exists after the rewrite iff it did before
    | none => rfl
    | some i =>
      simp only [itemsAfterVar, seenItems_some]
      cases hg' : getRoot (rewriteVar _ name d _) i with
      | none => rw [show getRoot st i = none from getRoot_rewriteVar_eq_none (st1 := tuneSt st _) |>.1 hg']; rfl
      | some its' => rfl

theorem processRule_ok {env : CliEnv} {cfg : Cfg} {top : Option Nat} {sel : Str} {items0 items' : List Item} {st st' : St}
    (hok : processRule env cfg top sel items0 st = .ok (items', st')) :
    (items' = seenItems top items0 st ∧ st'.tuned = st.tuned ∧ st'.vars = st.vars ∧ st'.rootDecls = st.rootDecls) ∨
    ∃ ci cd, lastDecl (seenItems top items0 st) "color".toList = some (ci, cd) ∧
      verdict (evalOf env cfg st (seenItems top items0 st) cd) = .tuned ∧
      tunedStep env cfg top sel items0 st ci cd = .ok (items', st') := by
  rw [processRule_eq_verdict] at hok
  cases h : lastDecl (seenItems top items0 st) "color".toList with
  | none => rw [h] at hok; cases hok; exact .inl ⟨rfl, rfl, rfl, rfl⟩
  | some p =>
    obtain ⟨ci, cd⟩ := p
    rw [h] at hok
    dsimp only at hok
    cases hv : verdict (evalOf env cfg st (seenItems top items0 st) cd) with
    | tuned => rw [hv] at hok; exact .inr ⟨ci, cd, rfl, hv, hok⟩
    | accessible => rw [hv] at hok; cases hok; exact .inl ⟨rfl, rfl, rfl, rfl⟩
    | failed inv => rw [hv] at hok; cases hok; exact .inl ⟨rfl, rfl, rfl, rfl⟩

/-- `b` is what `processRule` returns for the (non-pre-parsed) rule `sel { a }` in some state -/
def RuleStepped (env : CliEnv) (cfg : Cfg) (sel : Str) (a b : List Item) : Prop :=
  ∃ st st', processRule env cfg none sel a st = .ok (b, st')

mutual
  theorem processNode_stepped (env : CliEnv) (cfg : Cfg) (st : St) : (n : Node) → (n' : Node) → (st' : St) →
      processNode env cfg none st n = .ok (n', st') → relNode (RuleStepped env cfg) n n'
    | .rule sel items, n', st', h => by
      rw [processNode_rule] at h
      obtain ⟨⟨its, _⟩, hr, h⟩ := bind_eq_ok h
      cases h
      exact relNode_rule.2 ⟨rfl, st, st', hr⟩
    | .at kw pre body, n', st', h => by
      rcases processNode_at_ok h with ⟨hk, rfl, _⟩ | ⟨hk, body', hb, rfl⟩
      · exact relNode_at.2 ⟨rfl, rfl, .inr ⟨hk, rfl⟩⟩
      · exact relNode_at.2 ⟨rfl, rfl, .inl ⟨hk, processNodes_stepped env cfg st body body' st' hb⟩⟩
    | .other t ok, n', st', h => by
      rw [processNode_other] at h; cases h; exact relNode_other.2 ⟨rfl, rfl⟩
  theorem processNodes_stepped (env : CliEnv) (cfg : Cfg) (st : St) : (ns : List Node) → (ns' : List Node) → (st' : St) →
      processNodes env cfg st ns = .ok (ns', st') → relNodes (RuleStepped env cfg) ns ns'
    | [], ns', st', h => by rw [processNodes_nil] at h; cases h; exact relNodes_nil
    | n :: ns, ns', st', h => by
      rw [processNodes_cons] at h
      obtain ⟨⟨n1, st1⟩, h1, h⟩ := bind_eq_ok h
      obtain ⟨⟨ns1, _⟩, h2, h⟩ := bind_eq_ok h
      cases h
      exact relNodes_cons.2 ⟨processNode_stepped env cfg st n n1 st1 h1, processNodes_stepped env cfg st1 ns ns1 st' h2⟩
end

/-- not a top-level `:root` / `html` rule (then `topOf n i = none`, `rootItems n = none`) -/
def notRootRule (n : Node) : Prop := ∀ sel items, n = .rule sel items → isRootSel sel = false

theorem topOf_notRoot {n : Node} (h : notRootRule n) (i : Nat) : topOf n i = none := by
  cases n with
  | rule sel items => simp only [topOf, h sel items rfl]; rfl
  | «at» k p b => rfl
  | other t ok => rfl

theorem processTop_stepped (env : CliEnv) (cfg : Cfg) : (ns : List Node) → (i : Nat) → (st : St) →
    (ns' : List Node) → (st' : St) → processTop env cfg ns i st = .ok (ns', st') →
    ∀ (j : Nat) (n : Node), ns[j]? = some n → notRootRule n → ∃ n', ns'[j]? = some n' ∧ relNode (RuleStepped env cfg) n n'
  | [], i, st, ns', st', h => by intro j n hn; simp at hn
  | m :: ns, i, st, ns', st', h => by
    rw [processTop_cons] at h
    obtain ⟨⟨m1, st1⟩, h1, h⟩ := bind_eq_ok h
    obtain ⟨⟨ns1, _⟩, h2, h⟩ := bind_eq_ok h
    cases h
    intro j n hn hnr
    cases j with
    | zero =>
      simp at hn; subst hn
      rw [topOf_notRoot hnr] at h1
      exact ⟨m1, by simp, processNode_stepped env cfg st m m1 st1 h1⟩
    | succ j => simpa using processTop_stepped env cfg ns (i + 1) st1 ns1 st' h2 j n (by simpa using hn) hnr

theorem getRoot_none_of_notRoot (env : CliEnv) (nodes : List Node) (st' : St)
    (hle : RootsLe (prePass env nodes).rootDecls st'.rootDecls) (i : Nat) (n : Node)
    (hn : nodes[i]? = some n) (hnr : notRootRule n) : getRoot st' i = none := by
  cases hg : getRoot st' i with
  | none => rfl
  | some its =>
    obtain ⟨sel, items, rfl, hroot⟩ := (prePass_rootKeys env nodes).mono hle _ (getRoot_mem hg) i n (by simp) hn
    rw [hnr sel items rfl] at hroot; cases hroot

/-- in a written file every node other than a top-level `:root` / `html` rule is the input node with each visited rule replaced by
    what `processRule` returned for it (C08's `written_in_file_direct` and C09's `only_adjusted_values_change` specialise this) -/
theorem processFile_stepped (env : CliEnv) (cfg : Cfg) (nodes : List Node) (st0 : St) (out : List Node) (st' : St)
    (h : processFile env cfg nodes st0 = (.written out, st')) (i : Nat) (n : Node) (hn : nodes[i]? = some n)
    (hnr : notRootRule n) : ∃ n', out[i]? = some n' ∧ relNode (RuleStepped env cfg) n n' := by
  obtain ⟨nodes', hres, rfl⟩ := processFile_written h
  have hle := (rootsLe_respected env cfg).top nodes 0 (fileSt env nodes st0)
  rw [hres] at hle
  obtain ⟨n', hn', hrel⟩ := processTop_stepped env cfg nodes 0 _ nodes' st' hres i n hn hnr
  refine ⟨n', ?_, hrel⟩
  rw [List.getElem?_mapIdx, hn']
  simp only [Option.map, postNode, getRoot_none_of_notRoot env nodes st' hle i n hn hnr]

theorem processFile_written_root (env : CliEnv) (cfg : Cfg) (nodes : List Node) (st0 : St) (out : List Node) (st' : St)
    (h : processFile env cfg nodes st0 = (.written out, st')) (i : Nat) (its : List Item) (hg : getRoot st' i = some its) :
    ∃ sel, out[i]? = some (.rule sel its) ∧ isRootSel sel = true := by
  -- the keys of `st'` are the pre-pass's (`RootsLe.shape`); a pre-pass key is the index of a `:root` / `html` rule (`prePass_roots`);
  -- processing keeps rule and selector at every index (`sameShapeNodes_getElem?_rule`); the post-pass puts the block there
  obtain ⟨nodes', hres, rfl⟩ := processFile_written h
  have hspec := processTop_spec env cfg nodes 0 (fileSt env nodes st0) (prePass_rootInv env nodes)
  have hle := (rootsLe_respected env cfg).top nodes 0 (fileSt env nodes st0)
  rw [hres] at hspec hle
  obtain ⟨kv, hkv, e, _⟩ := hle.shape _ (getRoot_mem hg)
  obtain ⟨sel, hsel, hroot⟩ := prePass_roots env nodes kv hkv
  simp only at e
  rw [e] at hsel
  obtain ⟨b, hb⟩ := sameShapeNodes_getElem?_rule nodes nodes' hspec.1 i sel kv.2 hsel
  refine ⟨sel, ?_, hroot⟩
  rw [List.getElem?_mapIdx, hb]
  simp only [Option.map, postNode, hg]

end Cm.Cli
