import CmModel.ApiVocab
/-!
# `makeReadable` in the vocabulary the generated images use (`Api.checkAndFixOut`, `Api.ofOut`), and the Python truth values of what it returns
-/
namespace Cm.SourceApi
open Cm Cm.Parse
variable {α : Type} [NumT α]

theorem fmtRgbFn_isEmpty (c : RGB) : (fmtRgbFn c).isEmpty = false := by
  unfold fmtRgbFn
  have : "rgb(".toList = 'r' :: "gb(".toList := by decide
  rw [this]; rfl

theorem fmtHex_isEmpty (c : RGB) : (fmtHex c).isEmpty = false := rfl

omit [NumT α] in
theorem formatColor_truthy [Num α] (c : RGB) (f : Fmt) : Api.outTruthy (formatColor (α := α) c f) = true := by
  cases f <;> simp [formatColor, Api.outTruthy, fmtRgbFn_isEmpty, fmtHex_isEmpty]

theorem checkAndFixOut_truthy (O : Leaf α) (d : Descend α) (t b : RGB) (large : Bool) (mode : Int) (very : Bool) :
    Api.outTruthy (Api.checkAndFixOut O d t b large mode very).1 = true := by
  unfold Api.checkAndFixOut
  dsimp only
  split
  · rfl
  · simp only [Api.outTruthy, fmtRgbFn_isEmpty, Bool.not_false]

theorem makeReadable_valid (E : PEnv) (O : Leaf α) (d : Descend α) (p : ColorPair α) (mode : Int) (very : Bool)
    (t b : RGB) (ht : p.text.rgb? = some t) (hb : p.bg.rgb? = some b) :
    p.makeReadable E O d mode very =
      some (match (Api.ofOut E (Api.checkAndFixOut O d t b p.large mode very).1).parse none with
            | .ok c => formatColor c p.text.fmt
            | .error _ => (Api.checkAndFixOut O d t b p.large mode very).1,
            (Api.checkAndFixOut O d t b p.large mode very).2) := by
  unfold ColorPair.makeReadable Api.checkAndFixOut
  rw [ht, hb]
  dsimp only
  generalize Num.ge (O.contrast t b) (thresholds (α := α) p.large very).1 = g
  generalize checkAndFix O d t b p.large mode very = r
  cases g
  · simp only [Bool.false_eq_true, if_false, Api.ofOut, Api.ofVal]
    cases parseColor (α := α) E (.str (fmtRgbFn r.1)) none <;> rfl
  · simp only [if_true, Api.ofOut, Api.ofVal]
    cases parseColor (α := α) E (.tuple [.int r.1.1, .int r.1.2.1, .int r.1.2.2]) none <;> rfl

/-- `makeReadable` answers `(None, False)` exactly for an invalid pair -/
theorem makeReadable_isSome (E : PEnv) (O : Leaf α) (d : Descend α) (p : ColorPair α) (mode : Int) (very : Bool) :
    (p.makeReadable E O d mode very).isSome = p.isValid := by
  unfold ColorPair.isValid Color.isValid
  cases ht : p.text.rgb? with
  | none => simp only [ColorPair.makeReadable, ht]; rfl
  | some t =>
    cases hb : p.bg.rgb? with
    | none => simp only [ColorPair.makeReadable, ht, hb]; rfl
    | some b => rw [makeReadable_valid E O d p mode very t b ht hb]; rfl

theorem makeReadable_some (E : PEnv) (O : Leaf α) (d : Descend α) (p : ColorPair α) (mode : Int) (very : Bool)
    (r : OutVal α × Bool) (h : p.makeReadable E O d mode very = some r) :
    ∃ t b, p.text.rgb? = some t ∧ p.bg.rgb? = some b := by
  -- `p.isValid`, written out
  have hv : (p.text.rgb?.isSome && p.bg.rgb?.isSome) = true :=
    (makeReadable_isSome E O d p mode very).symm.trans (congrArg Option.isSome h)
  rw [Bool.and_eq_true, Option.isSome_iff_exists, Option.isSome_iff_exists] at hv
  obtain ⟨⟨t, ht⟩, ⟨b, hb⟩⟩ := hv
  exact ⟨t, b, ht, hb⟩

theorem makeReadable_truthy (E : PEnv) (O : Leaf α) (d : Descend α) (p : ColorPair α) (mode : Int) (very : Bool)
    (out : OutVal α) (ok : Bool) (h : p.makeReadable E O d mode very = some (out, ok)) : Api.outTruthy out = true := by
  obtain ⟨t, b, ht, hb⟩ := makeReadable_some E O d p mode very _ h
  rw [makeReadable_valid E O d p mode very t b ht hb] at h
  cases h
  split
  · exact formatColor_truthy _ _
  · exact checkAndFixOut_truthy ..

theorem not_readable_lower : "Not Readable".toLower = "not readable" :=
  String.toList_inj.mp (by simp [String.toLower])

/-- `pair.is_readable.lower()` -/
theorem isReadable_lower (p : ColorPair α) :
    p.isReadable.toLower =
      (match p.text.rgb?, p.bg.rgb? with
       | some t, some b => (wcagLevel (α := α) t b p.large).label.toLower
       | _, _ => "not readable") := by
  unfold ColorPair.isReadable
  cases p.text.rgb? with
  | none => exact not_readable_lower
  | some t =>
    cases p.bg.rgb? with
    | none => exact not_readable_lower
    | some b => rfl

end Cm.SourceApi
