import CmModel.Color
/-!
What `Color.new` computes, as one equation. Core only (no Mathlib), so that the light property files can cite it.
-/
namespace Cm
open Cm.Parse
variable {α : Type} [Num α]

/-- `Color.__init__`: the parser's outcome over the context colour's `rgb` is recorded; `_parse` catches each of
    the three kinds of exception -/
theorem Color.new_eq (E : PEnv) (v : PyVal α) (ctx : Option (Color α)) :
    Color.new E v ctx =
      { fmt := detectFormat E v
        state := match parseColor E v (match ctx with | some c => c.rgb? | none => none) with
          | .ok c => .valid c
          | .error _ => .invalid } := by
  unfold Color.new
  simp only
  generalize parseColor E v _ = r
  cases r with
  | ok c => rfl
  | error e => cases e <;> rfl

end Cm
