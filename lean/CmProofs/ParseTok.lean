import CmProofs.ParseLemmas
import CmProofs.ParseSpec
import CmProofs.ParseFloatStr
/-!
# What the function-notation theorems share: the text `name( … )`, numerals, tokens, separators

`fnText` is one lemma for the four prefixes (`rgbFn_text`, `hslShape`, `hslaShape` are its instances).
-/
namespace Cm.ParseSpec
open Cm Cm.Parse

/-- an ASCII character that lower-casing leaves alone (digits, `(`, `,`, blanks included): all the text of a function
    notation consists of such -/
abbrev LowerFixed (c : Char) : Prop := c.toNat < 128 ∧ lc c = c

theorem low_append {s t : Str} (hs : ∀ c ∈ s, LowerFixed c) (ht : ∀ c ∈ t, LowerFixed c) :
    ∀ c ∈ s ++ t, LowerFixed c :=
  List.forall_mem_append.2 ⟨hs, ht⟩

theorem isBareHex_of_nonhex {s : Str} {c : Char} (hc : c ∈ s) (hx : Str.isHexDigit c = false) :
    isBareHex s = false := by
  unfold isBareHex
  rw [Bool.and_eq_false_iff]
  right
  rw [List.all_eq_false]
  exact ⟨c, hc, by rw [hx]; decide⟩

/-- what `parse_color_to_rgb`, `hsl_to_rgb` and `hsla_to_rgb` find out about `pre body )` before they
    look at `body` -/
structure FnText (cls : CharCls) (n : List (Str × Str)) (pre body s : Str) : Prop where
  strip : Str.strip cls s = s
  lower : Str.lower cls s = s
  lookup : lookupNamed ⟨cls, n⟩ s = none
  hash : Str.startsWith s ['#'] = false
  bare : isBareHex s = false
  close : Str.endsWith s [')'] = true
  inner : (s.drop pre.length).dropLast = body

/-- what `fnText` asks of the prefix: lower-case ASCII text that contains `(` and starts with neither white
    space nor `#` (a literal prefix passes by `decide`) -/
def fnPre (pre : Str) : Bool :=
  match pre with
  | h :: _ => !asciiIsSpace h && h != '#' && pre.contains '(' &&
      pre.all fun c => decide (c.toNat < 128) && lc c == c
  | [] => false

theorem fnText {cls : CharCls} (hf : AsciiFaithful cls) {n : List (Str × Str)} (hn : ∀ kv ∈ n, '(' ∉ kv.1)
    {pre body : Str} (hp : fnPre pre = true) (hbody : ∀ c ∈ body, LowerFixed c) :
    FnText cls n pre body (pre ++ body ++ [')']) := by
  obtain ⟨h, t, rfl⟩ : ∃ h t, pre = h :: t := by
    cases pre with
    | nil => cases hp
    | cons h t => exact ⟨h, t, rfl⟩
  simp only [fnPre, Bool.and_eq_true, Bool.not_eq_eq_eq_not, Bool.not_true, bne_iff_ne, ne_eq,
    List.contains_iff_mem, List.all_eq_true, beq_iff_eq, decide_eq_true_eq] at hp
  obtain ⟨⟨⟨hsp, hhash⟩, hpar⟩, hlow⟩ := hp
  have hmem : '(' ∈ (h :: t) ++ body ++ [')'] :=
    List.mem_append_left _ (List.mem_append_left _ hpar)
  refine ⟨?_, ?_, lookupNamed_of_nonkey cls hn hmem, ?_,
    isBareHex_of_nonhex hmem (by decide), endsWith_concat _ _, ?_⟩
  · apply strip_fixed_of cls _ (by simp)
    · exact (hf.isSpace h (hlow h List.mem_cons_self).1).trans hsp
    · rw [List.getLast_append_singleton]; exact (hf.isSpace ')' (by decide)).trans (by decide)
  · have hl : ∀ c ∈ (h :: t) ++ body ++ [')'], LowerFixed c := low_append (low_append hlow hbody) fun c hc => by
      rw [List.mem_singleton.1 hc]; exact ⟨by decide, by decide⟩
    exact (lower_faithful hf fun c hc => (hl c hc).1).trans (lower_fixed fun c hc => (hl c hc).2)
  · simp [Str.startsWith, List.isPrefixOf, Ne.symm hhash]
  · rw [List.append_assoc, List.drop_left, List.dropLast_concat]

theorem ofDecimal_rat (neg : Bool) (m fc : Nat) :
    @Num.ofDecimal ℚ ratNum neg m (-(Int.ofNat fc)) =
      (if neg then -1 else 1) * ((m : ℚ) / (10 : ℚ) ^ fc) := by
  -- (`ratNum.ofDecimal` unfolded)
  show (let v : ℚ := if -(Int.ofNat fc) ≥ 0 then (m : ℚ) * (10 : ℚ) ^ (-(Int.ofNat fc)).toNat
          else (m : ℚ) / (10 : ℚ) ^ (- -(Int.ofNat fc)).toNat
        if neg then -v else v) = _
  simp only
  rcases Nat.eq_zero_or_pos fc with rfl | hpos
  · cases neg <;> simp
  · have hneg : ¬ (-(Int.ofNat fc) ≥ 0) := by
      simp only [Int.ofNat_eq_natCast, ge_iff_le, Int.neg_nonneg]; omega
    rw [if_neg hneg]
    have : (- -(Int.ofNat fc)).toNat = fc := by simp
    rw [this]
    cases neg <;> simp

/-- an unsigned decimal numeral a regex token can consist of: `ddd` or `[ddd].ddd`, with its value -/
inductive Numeral : Str → ℚ → Prop
  | int {ds : Str} (hne : ds ≠ []) (hd : AllD ds) : Numeral ds (natVal ds)
  | frac {ds fs : Str} (hd : AllD ds) (hf : AllD fs) (hfne : fs ≠ []) :
      Numeral (ds ++ '.' :: fs) (((natVal ds * 10 ^ fs.length + natVal fs : ℕ) : ℚ) / (10 : ℚ) ^ fs.length)

theorem Numeral.nonneg {b : Str} {v : ℚ} (h : Numeral b v) : 0 ≤ v := by
  cases h <;> positivity

/-- `float()` reads a numeral (with optional sign) as its value -/
theorem Numeral.parse {cls : CharCls} (hf : AsciiFaithful cls)
    {b : Str} {v : ℚ} (h : Numeral b v) {sgn : Str} {neg : Bool} (hs : SignOf sgn neg) :
    @PyFloat.parse cls ℚ ratNum (sgn ++ b) = .ok (if neg then -v else v) := by
  cases h with
  | int hne hd =>
    have := parse_lit (α := ℚ) (inst := ratNum) hf hs (ds := b) (tail := []) (fs := []) hd
      (fun _ h => by cases h)
      (Or.inl ⟨rfl, rfl⟩) (Or.inl hne)
    rw [List.append_nil] at this
    rw [this, ofDecimal_rat]
    cases neg <;> simp [natVal]
  | frac hd hfs hfne =>
    rename_i ds fs
    have := parse_lit (α := ℚ) (inst := ratNum) hf hs (ds := ds) (tail := '.' :: fs) (fs := fs) hd hfs
      (Or.inr rfl) (Or.inr hfne)
    rw [this, ofDecimal_rat]
    cases neg <;> simp

theorem Numeral.parse_pos {cls : CharCls} (hf : AsciiFaithful cls) {b : Str} {v : ℚ} (h : Numeral b v) :
    @PyFloat.parse cls ℚ ratNum b = .ok v := by
  have := h.parse hf SignOf.none
  simpa using this


/-- a character of a number token or of a signed numeral: digit, point, percent sign, sign (so a text of
    `TokChar`s may still contain `%`: `signed_no_pct`) -/
def TokChar (c : Char) : Prop := NumChar c ∨ c = '%' ∨ c = '-' ∨ c = '+'

structure TokCharFacts (c : Char) : Prop where
  lt : c.toNat < 128
  notSpace : asciiIsSpace c = false
  lc : lc c = c
  ne_comma : c ≠ ','
  ne_slash : c ≠ '/'

theorem tokCharFacts {c : Char} (h : TokChar c) : TokCharFacts c := by
  rcases h with (h | rfl) | rfl | rfl | rfl
  · have F := digFacts c h
    exact ⟨isD_lt c h, F.notSpace, F.lc, F.ne_comma, F.ne_slash⟩
  all_goals exact ⟨by decide, by decide, by decide, by decide, by decide⟩

theorem Numeral.ne_nil {b : Str} {v : ℚ} (h : Numeral b v) : b ≠ [] := by
  cases h with
  | int hne _ => exact hne
  | frac _ _ _ => simp

theorem Numeral.chars {b : Str} {v : ℚ} (h : Numeral b v) : ∀ c ∈ b, NumChar c := by
  cases h with
  | int _ hd => exact fun c hc => Or.inl (hd c hc)
  | frac hd hf _ => exact numChars_dot hd hf

theorem Numeral.no_pct {b : Str} {v : ℚ} (h : Numeral b v) : '%' ∉ b := by
  intro hm
  rcases h.chars _ hm with h | h
  · exact (digFacts _ h).ne_pct rfl
  · exact absurd h (by decide)

/-- a token of the regex: a numeral, or a numeral followed by `%`; with the numeral's value -/
inductive NumTok : Str → ℚ → Bool → Prop
  | plain {b : Str} {v : ℚ} (h : Numeral b v) : NumTok b v false
  | pct {b : Str} {v : ℚ} (h : Numeral b v) : NumTok (b ++ ['%']) v true

theorem NumTok.ne_nil {t : Str} {v : ℚ} {p : Bool} (h : NumTok t v p) : t ≠ [] := by
  cases h with
  | plain h => exact h.ne_nil
  | pct h => simp

theorem NumTok.nonneg {t : Str} {v : ℚ} {p : Bool} (h : NumTok t v p) : 0 ≤ v := by
  cases h with
  | plain h => exact h.nonneg
  | pct h => exact h.nonneg

theorem NumTok.chars {t : Str} {v : ℚ} {p : Bool} (h : NumTok t v p) : ∀ c ∈ t, TokChar c := by
  cases h with
  | plain h => exact fun c hc => Or.inl (h.chars c hc)
  | pct h =>
    intro c hc
    rcases List.mem_append.1 hc with hc | hc
    · exact Or.inl (h.chars c hc)
    · exact Or.inr (Or.inl (by simpa using hc))

theorem tokChar_low {c : Char} (h : TokChar c) : LowerFixed c :=
  ⟨(tokCharFacts h).lt, (tokCharFacts h).lc⟩

theorem low_of_tokChars {t : Str} (h : ∀ c ∈ t, TokChar c) : ∀ c ∈ t, LowerFixed c :=
  fun c hc => tokChar_low (h c hc)

theorem noSp_of_tokChars {cls : CharCls} (hf : AsciiFaithful cls) {t : Str} (h : ∀ c ∈ t, TokChar c) :
    ∀ c ∈ t, cls.isSpace c = false :=
  fun c hc => (hf.isSpace c (tokCharFacts (h c hc)).lt).trans (tokCharFacts (h c hc)).notSpace

theorem strip_tokChars {cls : CharCls} (hf : AsciiFaithful cls) {t : Str} (h : ∀ c ∈ t, TokChar c) :
    Str.strip cls t = t :=
  strip_noSpace cls (noSp_of_tokChars hf h)

theorem signed_chars {sgn b : Str} {neg : Bool} {v : ℚ} (hs : SignOf sgn neg) (hb : Numeral b v) :
    ∀ c ∈ sgn ++ b, TokChar c := by
  intro c hc
  rcases List.mem_append.1 hc with h | h
  · cases hs
    · cases h
    · exact Or.inr (Or.inr (Or.inl (by simpa using h)))
    · exact Or.inr (Or.inr (Or.inr (by simpa using h)))
  · exact Or.inl (hb.chars c h)

theorem signed_no_pct {sgn b : Str} {neg : Bool} {v : ℚ} (hs : SignOf sgn neg) (hb : Numeral b v) :
    '%' ∉ sgn ++ b := by
  intro hm
  rcases List.mem_append.1 hm with h | h
  · cases hs <;> simp at h
  · exact hb.no_pct h

theorem signed_ne_nil {sgn b : Str} {v : ℚ} (hb : Numeral b v) : sgn ++ b ≠ [] := by
  have := hb.ne_nil
  simp [this]

theorem signed_head {cls : CharCls} (hf : AsciiFaithful cls)
    {sgn b : Str} {neg : Bool} {v : ℚ} (hs : SignOf sgn neg)
    (hb : Numeral b v) (rest : Str) (hne : (sgn ++ b) ++ rest ≠ []) :
    cls.isSpace (((sgn ++ b) ++ rest).head hne) = false := by
  rw [List.head_append_of_ne_nil (signed_ne_nil hb)]
  exact noSp_of_tokChars hf (signed_chars hs hb) _ (List.head_mem _)

/-- separators inside the parentheses: blanks and commas -/
def AllSep (j : Str) : Prop := ∀ c ∈ j, c = ' ' ∨ c = ','

/-- only blanks -/
def AllSp (w : Str) : Prop := ∀ c ∈ w, c = ' '

theorem sep_low {j : Str} (h : AllSep j) : ∀ c ∈ j, LowerFixed c := by
  intro c hc
  rcases h c hc with rfl | rfl <;> exact ⟨by decide, by decide⟩

theorem allSep_nil : AllSep [] := fun _ h => by cases h
theorem allSep_sp {j : Str} (h : AllSep j) : AllSep (' ' :: j) :=
  List.forall_mem_cons.2 ⟨Or.inl rfl, h⟩
theorem allSep_comma {j : Str} (h : AllSep j) : AllSep (',' :: j) :=
  List.forall_mem_cons.2 ⟨Or.inr rfl, h⟩
theorem allSp_nil : AllSp [] := fun _ h => by cases h
theorem allSp_sp {w : Str} (h : AllSp w) : AllSp (' ' :: w) :=
  List.forall_mem_cons.2 ⟨rfl, h⟩

theorem replaceChar_append (s t : Str) (c : Char) (r : Str) :
    Str.replaceChar (s ++ t) c r = Str.replaceChar s c r ++ Str.replaceChar t c r := by
  unfold Str.replaceChar; exact List.flatMap_append

theorem replaceChar_absent {s : Str} {c : Char} (h : c ∉ s) (r : Str) : Str.replaceChar s c r = s := by
  unfold Str.replaceChar
  induction s with
  | nil => rfl
  | cons x xs ih =>
    have hx : x ≠ c := fun e => h (e ▸ List.mem_cons_self)
    rw [List.flatMap_cons, if_neg hx, ih (fun hm => h (List.mem_cons_of_mem _ hm))]
    rfl

theorem unit_of_pct {v : ℚ} (h0 : 0 ≤ v) (h1 : v ≤ 100) : 0 ≤ v / 100 ∧ v / 100 ≤ 1 :=
  ⟨by positivity, by rw [div_le_one (by norm_num)]; exact h1⟩

/-- reducing the hue first does not change CSS's colour -/
theorem css3Hsl_pmod (H s l : ℚ) : css3Hsl (pmodQ H 360) s l = css3Hsl H s l := by
  unfold css3Hsl
  rw [← pmodQ_eq_cssNormHue, ← pmodQ_eq_cssNormHue, pmodQ_360_idem]

/-- `a if a <= 1 else a / 100` of `hsla_to_rgb` -/
theorem alpha_of_value {v : ℚ} (h0 : 0 ≤ v) (h1 : v ≤ 100) :
    0 ≤ (if v ≤ 1 then v else v / 100) ∧ (if v ≤ 1 then v else v / 100) ≤ 1 := by
  split_ifs with h
  · exact ⟨h0, h⟩
  · exact unit_of_pct h0 h1

theorem numeral_nat (n : ℕ) : Numeral (toString n).toList (n : ℚ) := by
  have := Numeral.int (toString_nat_ne_nil n) (allD_nat n)
  rwa [natVal_nat] at this

theorem numeral_dec (a b : ℕ) :
    Numeral ((toString a).toList ++ '.' :: (toString b).toList)
      (((a * 10 ^ (toString b).toList.length + b : ℕ) : ℚ) / (10 : ℚ) ^ (toString b).toList.length) := by
  have := Numeral.frac (allD_nat a) (allD_nat b) (toString_nat_ne_nil b)
  rwa [natVal_nat, natVal_nat] at this

end Cm.ParseSpec
