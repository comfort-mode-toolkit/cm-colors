import CmProofs.RealNum
import CmProofs.Rgb
import Mathlib.Tactic.NormNum
import Mathlib.Tactic.Linarith
import Mathlib.Tactic.LinearCombination
/-!
# WCAG luminance and contrast at the real carrier

`lin` is `srgbToLinear` at ℝ. It is strictly increasing on all of ℝ (at the junction the two branches are compared
through `a ^ 5 < x ^ 12`), hence the relative luminance is strictly monotone on `ℤ × ℤ × ℤ` with its product order;
its range, its extremes and monotonicity in each channel are read off from that.
-/
namespace Cm
open Real

/-- `h` is `f` up to `c` (`hl`) and `g` beyond (`hr`); `f` is strictly increasing up to `c` (`hf`), `g` beyond (`hg`),
and `f c` lies below every value `g` takes beyond `c` (`hfg`, the junction) -/
theorem strictMono_of_glue {f g h : ℝ → ℝ} {c : ℝ} (hl : ∀ x ≤ c, h x = f x) (hr : ∀ x, c < x → h x = g x)
    (hf : StrictMonoOn f (Set.Iic c)) (hg : StrictMonoOn g (Set.Ioi c)) (hfg : ∀ y, c < y → f c < g y) :
    StrictMono h := by
  intro x y hxy
  rcases le_or_gt y c with hy | hy
  · rw [hl x (hxy.le.trans hy), hl y hy]; exact hf (hxy.le.trans hy) hy hxy
  · rcases le_or_gt x c with hx | hx
    · rw [hl x hx, hr y hy]
      exact (hf.monotoneOn hx (Set.mem_Iic.2 le_rfl) hx).trans_lt (hfg y hy)
    · rw [hr x hx, hr y hy]; exact hg hx hy hxy

theorem _root_.StrictMono.add_prod {α β : Type*} [PartialOrder α] [PartialOrder β] {f : α → ℝ} {g : β → ℝ}
    (hf : StrictMono f) (hg : StrictMono g) : StrictMono fun p : α × β => f p.1 + g p.2 := by
  intro p q h
  rcases Prod.lt_iff.1 h with ⟨l, le⟩ | ⟨le, l⟩
  · exact add_lt_add_of_lt_of_le (hf l) (hg.monotone le)
  · exact add_lt_add_of_le_of_lt (hf.monotone le) (hg l)

theorem _root_.StrictMono.eq_iff_of_le {α β : Type*} [PartialOrder α] [Preorder β] {f : α → β}
    (hf : StrictMono f) {a b : α} (h : a ≤ b) : f a = f b ↔ a = b :=
  ⟨fun e => by_contra fun ne => (hf (lt_of_le_of_ne h ne)).ne e, congrArg f⟩

theorem rpow_pow_of_mul_eq {x a : ℝ} {n m : ℕ} (hx : 0 ≤ x) (h : a * n = m) : (x ^ a) ^ n = x ^ m := by
  rw [← rpow_natCast, ← rpow_mul hx, h, rpow_natCast]

/-- `srgbToLinear` at ℝ -/
noncomputable def lin (c : ℝ) : ℝ :=
  if c ≤ 0.04045 then c / 12.92 else ((c + 0.055) / 1.055) ^ (2.4 : ℝ)

theorem srgbToLinear_real (c : ℝ) : @srgbToLinear ℝ realNum c = lin c := by
  unfold srgbToLinear lin
  simp only [real_le, real_sci, real_add, real_div, real_rpow]

theorem lin_zero : lin 0 = 0 := by
  unfold lin; rw [if_pos (by norm_num)]; norm_num

theorem lin_one : lin 1 = 1 := by
  unfold lin; rw [if_neg (by norm_num)]
  have : ((1 : ℝ) + 0.055) / 1.055 = 1 := by norm_num
  rw [this, one_rpow]

/-- `x ^ 2.4` is compared with rationals through its fifth power, which, being odd, keeps the order whatever the
signs -/
theorem rpow_12_5 {x : ℝ} (hx : 0 ≤ x) : (x ^ (2.4 : ℝ)) ^ 5 = x ^ 12 :=
  rpow_pow_of_mul_eq hx (by norm_num)

theorem rpow_12_5_bounds {x lo hi : ℝ} (hx : 0 ≤ x) :
    lo ≤ x ^ (2.4 : ℝ) ∧ x ^ (2.4 : ℝ) ≤ hi ↔ lo ^ 5 ≤ x ^ 12 ∧ x ^ 12 ≤ hi ^ 5 := by
  rw [← rpow_12_5 hx, Odd.pow_le_pow (by decide), Odd.pow_le_pow (by decide)]

theorem lin_junction : (0.04045 : ℝ) / 12.92 < ((0.04045 + 0.055) / 1.055) ^ (2.4 : ℝ) := by
  rw [← Odd.pow_lt_pow (n := 5) (by decide), rpow_12_5 (by norm_num)]; norm_num

theorem lin_strictMono : StrictMono lin := by
  refine strictMono_of_glue (c := 0.04045) (f := fun x => x / 12.92)
    (g := fun x => ((x + 0.055) / 1.055) ^ (2.4 : ℝ))
    (hl := fun x hx => if_pos hx) (hr := fun x hx => if_neg (not_le.2 hx))
    (hf := fun x _ y _ hxy => div_lt_div_of_pos_right hxy (by norm_num)) (hg := ?_) (hfg := ?_)
  · intro x hx y _ hxy
    have hx' : (0 : ℝ) < x := lt_trans (by norm_num) (Set.mem_Ioi.1 hx)
    exact rpow_lt_rpow (by positivity)
      (div_lt_div_of_pos_right (by linear_combination hxy) (by norm_num)) (by norm_num)
  · intro y hy
    -- `0.04045 / 12.92 < ((0.04045 + 0.055) / 1.055) ^ 2.4 ≤ ((y + 0.055) / 1.055) ^ 2.4`
    exact lin_junction.trans_le (rpow_le_rpow (by norm_num)
      (div_le_div_of_nonneg_right (by linear_combination hy.le) (by norm_num)) (by norm_num))

theorem chan_real (v : Int) : @chan ℝ realNum v = (v : ℝ) / 255 := by
  unfold chan
  simp only [real_div, real_sci, real_ofInt]
  norm_num only

theorem chan_le_iff_floor {c : ℝ} {n : ℤ} (h : ⌊c * 255⌋ = n) (v : ℤ) : (v : ℝ) / 255 ≤ c ↔ v ≤ n := by
  rw [div_le_iff₀ (by norm_num), ← Int.le_floor, h]

/-- `⌊0.04045 · 255⌋ = 10` -/
theorem chan_le_cut (v : ℤ) : (v : ℝ) / 255 ≤ 0.04045 ↔ v ≤ 10 :=
  chan_le_iff_floor (by rw [Int.floor_eq_iff]; norm_num) v

theorem validRgb_iff_Icc (c : RGB) :
    validRgb c = true ↔ ((0, 0, 0) : RGB) ≤ c ∧ c ≤ (255, 255, 255) := by
  rw [validRgb_iff]; simp only [Prod.le_def]; tauto

/-- the linearised channel of an 8-bit value: `srgbToLinear (chan v)` at ℝ -/
noncomputable def linChan (v : ℤ) : ℝ := lin ((v : ℝ) / 255)

theorem linChan_def (v : ℤ) : linChan v = lin ((v : ℝ) / 255) := rfl

theorem linChan_strictMono : StrictMono linChan :=
  lin_strictMono.comp fun _ _ h => div_lt_div_of_pos_right (Int.cast_lt.2 h) (by norm_num)

theorem linChan_zero : linChan 0 = 0 := by rw [linChan_def, Int.cast_zero, zero_div, lin_zero]

theorem linChan_255 : linChan 255 = 1 := by
  rw [linChan_def, show ((255 : ℤ) : ℝ) / 255 = 1 by norm_num, lin_one]

theorem linChan_nonneg {v : ℤ} (h : 0 ≤ v) : 0 ≤ linChan v :=
  linChan_zero ▸ linChan_strictMono.monotone h

theorem linChan_le_one {v : ℤ} (h : v ≤ 255) : linChan v ≤ 1 :=
  linChan_255 ▸ linChan_strictMono.monotone h

noncomputable def linRgb (c : RGB) : ℝ × ℝ × ℝ := (linChan c.1, linChan c.2.1, linChan c.2.2)

theorem linRgb_strictMono : StrictMono linRgb :=
  linChan_strictMono.prodMap (linChan_strictMono.prodMap linChan_strictMono)

/-- the weights of `calculate_relative_luminance`, associated to the right (the shape `StrictMono.add_prod` gives;
the model associates to the left) -/
noncomputable def lumW (x : ℝ × ℝ × ℝ) : ℝ := 0.2126 * x.1 + (0.7152 * x.2.1 + 0.0722 * x.2.2)

theorem lumW_strictMono : StrictMono lumW :=
  (strictMono_mul_left_of_pos (by norm_num)).add_prod
    ((strictMono_mul_left_of_pos (by norm_num)).add_prod (strictMono_mul_left_of_pos (by norm_num)))

theorem luminance_real (c : RGB) : @luminance ℝ realNum c =
    0.2126 * linChan c.1 + 0.7152 * linChan c.2.1 + 0.0722 * linChan c.2.2 := by
  unfold luminance
  simp only [real_add, real_mul, real_sci, srgbToLinear_real, chan_real, linChan_def]

/-- the same, in the shape the monotonicity argument uses -/
theorem luminance_eq_lumW (c : RGB) : @luminance ℝ realNum c = lumW (linRgb c) :=
  (luminance_real c).trans (add_assoc _ _ _)

theorem luminance_strictMono : StrictMono (@luminance ℝ realNum) := fun c d h => by
  rw [luminance_eq_lumW, luminance_eq_lumW]; exact lumW_strictMono (linRgb_strictMono h)

theorem luminance_black : @luminance ℝ realNum (0, 0, 0) = 0 := by
  rw [luminance_real, linChan_zero]; norm_num

theorem luminance_white : @luminance ℝ realNum (255, 255, 255) = 1 := by
  rw [luminance_real, linChan_255]; norm_num

theorem luminance_nonneg {c : RGB} (h : validRgb c = true) : 0 ≤ @luminance ℝ realNum c := by
  rw [← luminance_black]; exact luminance_strictMono.monotone ((validRgb_iff_Icc c).1 h).1

theorem luminance_le_one {c : RGB} (h : validRgb c = true) : @luminance ℝ realNum c ≤ 1 := by
  rw [← luminance_white]; exact luminance_strictMono.monotone ((validRgb_iff_Icc c).1 h).2

theorem contrastRatio_real (a b : RGB) : @contrastRatio ℝ realNum a b =
    (max (@luminance ℝ realNum a) (@luminance ℝ realNum b) + 0.05)
      / (min (@luminance ℝ realNum a) (@luminance ℝ realNum b) + 0.05) := by
  unfold contrastRatio
  simp only [real_add, real_div, real_sci, real_pmax, real_pmin]

theorem ratio_den_pos {x : ℝ} (h : 0 ≤ x) : 0 < x + 0.05 := add_pos_of_nonneg_of_pos h (by norm_num)

theorem ratio_bounds {lo hi : ℝ} (h0 : 0 ≤ lo) (hle : lo ≤ hi) (h1 : hi ≤ 1) :
    1 ≤ (hi + 0.05) / (lo + 0.05) ∧ (hi + 0.05) / (lo + 0.05) ≤ 21 := by
  rw [le_div_iff₀ (ratio_den_pos h0), div_le_iff₀ (ratio_den_pos h0)]
  exact ⟨by linear_combination hle, by linear_combination h1 + 21 * h0⟩

theorem ratio_eq_21 {lo hi : ℝ} (h0 : 0 ≤ lo) (h1 : hi ≤ 1) :
    (hi + 0.05) / (lo + 0.05) = 21 ↔ lo = 0 ∧ hi = 1 := by
  rw [div_eq_iff (ratio_den_pos h0).ne']
  constructor
  · intro e
    -- `hi - 1 = 21 lo` with `hi - 1 ≤ 0 ≤ lo`
    have hlo : lo = 0 := le_antisymm (by linear_combination (1 / 21) * h1 - (1 / 21) * e) h0
    exact ⟨hlo, by linear_combination e + 21 * hlo⟩
  · rintro ⟨rfl, rfl⟩; norm_num

theorem threshold_iff {lo hi r : ℝ} (h : lo ≤ hi) :
    ((if hi ≤ r then Level.AAA else if lo ≤ r then .AA else .FAIL) = .AAA ↔ hi ≤ r) ∧
    ((if hi ≤ r then Level.AAA else if lo ≤ r then .AA else .FAIL) = .AA ↔ lo ≤ r ∧ r < hi) ∧
    ((if hi ≤ r then Level.AAA else if lo ≤ r then .AA else .FAIL) = .FAIL ↔ r < lo) := by
  by_cases h1 : hi ≤ r
  · simp [h1, h.trans h1]
  · by_cases h2 : lo ≤ r
    · simp [h1, h2, not_le.1 h1]
    · simp [h1, h2, not_le.1 h2]

theorem contrastLevel_real (r : ℝ) (large : Bool) : @contrastLevel ℝ realNum.toNum r large =
    if (if large then (4.5 : ℝ) else 7) ≤ r then .AAA
    else if (if large then (3 : ℝ) else 4.5) ≤ r then .AA else .FAIL := by
  unfold contrastLevel
  cases large <;> simp only [real_ge, real_sci, if_true, Bool.false_eq_true, if_false] <;> norm_num only

end Cm
