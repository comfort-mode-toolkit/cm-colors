import CmProofs.CliTree
/-!
# The rules the CSS rewriter visits, in order

`fileTrace`: the successful `processRule` calls of one file, each with the state before and after. A written file's trace leads
from the pre-pass state to the final state (`processFile_chained`), so a relation every call respects holds along it (`Respected.chained`).
-/
namespace Cm.Cli

/-- one successful call of `processRule`: its arguments, the state before and the state after -/
structure RuleVisit where
  top : Option Nat
  sel : Str
  items0 : List Item
  before : St
  after : St

mutual
  /-- the rules the tool visits in a node, in processing order, with the states around each -/
  def traceNode (env : CliEnv) (cfg : Cfg) (top : Option Nat) (st : St) : Node → List RuleVisit
    | .rule sel items =>
      match processRule env cfg top sel items st with
      | .ok (_, st') => [{ top := top, sel := sel, items0 := items, before := st, after := st' }]
      | .error _ => []
    | .at kw _ body => if isNested kw then traceNodes env cfg st body else []
    | .other _ _ => []
  def traceNodes (env : CliEnv) (cfg : Cfg) (st : St) : List Node → List RuleVisit
    | [] => []
    | n :: ns => traceNode env cfg none st n ++
        (match processNode env cfg none st n with
         | .ok (_, st1) => traceNodes env cfg st1 ns
         | .error _ => [])
end

def traceTop (env : CliEnv) (cfg : Cfg) : List Node → Nat → St → List RuleVisit
  | [], _, _ => []
  | n :: ns, i, st => traceNode env cfg (topOf n i) st n ++
      (match processNode env cfg (topOf n i) st n with
       | .ok (_, st1) => traceTop env cfg ns (i + 1) st1
       | .error _ => [])

/-- the visits of one file, in processing order -/
def fileTrace (env : CliEnv) (cfg : Cfg) (nodes : List Node) (st0 : St) : List RuleVisit :=
  traceTop env cfg nodes 0 (fileSt env nodes st0)

def IsVisit (env : CliEnv) (cfg : Cfg) (v : RuleVisit) : Prop :=
  ∃ items', processRule env cfg v.top v.sel v.items0 v.before = .ok (items', v.after)

/-- the visits lead from `st` to `st'`: each starts where the previous one ended -/
def Chained (env : CliEnv) (cfg : Cfg) : St → List RuleVisit → St → Prop
  | st, [], st' => st = st'
  | st, v :: r, st' => v.before = st ∧ IsVisit env cfg v ∧ Chained env cfg v.after r st'

theorem Chained.append {env : CliEnv} {cfg : Cfg} : {a b c : St} → {l1 l2 : List RuleVisit} →
    Chained env cfg a l1 b → Chained env cfg b l2 c → Chained env cfg a (l1 ++ l2) c
  | _, _, _, [], _, h1, h2 => by simp only [Chained] at h1; subst h1; exact h2
  | _, _, _, v :: r, _, h1, h2 => by
    simp only [Chained, List.cons_append] at h1 ⊢
    exact ⟨h1.1, h1.2.1, h1.2.2.append h2⟩

theorem Chained.split {env : CliEnv} {cfg : Cfg} : {a c : St} → (l1 : List RuleVisit) → {l2 : List RuleVisit} →
    Chained env cfg a (l1 ++ l2) c → ∃ b, Chained env cfg a l1 b ∧ Chained env cfg b l2 c
  | a, _, [], _, h => ⟨a, rfl, h⟩
  | _, _, v :: r, _, h => by
    simp only [Chained, List.cons_append] at h
    obtain ⟨b, h1, h2⟩ := Chained.split r h.2.2
    exact ⟨b, ⟨h.1, h.2.1, h1⟩, h2⟩

mutual
  theorem processNode_chained (env : CliEnv) (cfg : Cfg) (top : Option Nat) (st : St) : (n : Node) → (n' : Node) →
      (st' : St) → processNode env cfg top st n = .ok (n', st') → Chained env cfg st (traceNode env cfg top st n) st'
    | .rule sel items, n', st', h => by
      rw [processNode_rule] at h
      obtain ⟨⟨its, _⟩, hr, h⟩ := bind_eq_ok h
      cases h
      simp only [traceNode, hr]; exact ⟨rfl, ⟨its, hr⟩, rfl⟩
    | .at kw pre body, n', st', h => by
      simp only [traceNode]
      rcases processNode_at_ok h with ⟨hk, _, rfl⟩ | ⟨hk, body', hb, _⟩
      · simp only [hk]; exact rfl
      · simp only [hk, if_true]; exact processNodes_chained env cfg st body body' st' hb
    | .other t ok, n', st', h => by
      rw [processNode_other] at h; cases h; simp only [traceNode]; exact rfl
  theorem processNodes_chained (env : CliEnv) (cfg : Cfg) (st : St) : (ns : List Node) → (ns' : List Node) → (st' : St) →
      processNodes env cfg st ns = .ok (ns', st') → Chained env cfg st (traceNodes env cfg st ns) st'
    | [], ns', st', h => by rw [processNodes_nil] at h; cases h; simp only [traceNodes]; exact rfl
    | n :: ns, ns', st', h => by
      rw [processNodes_cons] at h
      obtain ⟨⟨n1, st1⟩, h1, h⟩ := bind_eq_ok h
      obtain ⟨⟨ns1, _⟩, h2, h⟩ := bind_eq_ok h
      cases h
      simp only [traceNodes, h1]
      exact (processNode_chained env cfg none st n n1 st1 h1).append (processNodes_chained env cfg st1 ns ns1 st' h2)
end

theorem processTop_chained (env : CliEnv) (cfg : Cfg) : (ns : List Node) → (i : Nat) → (st : St) → (ns' : List Node) →
    (st' : St) → processTop env cfg ns i st = .ok (ns', st') → Chained env cfg st (traceTop env cfg ns i st) st'
  | [], i, st, ns', st', h => by rw [processTop_nil] at h; cases h; simp only [traceTop]; exact rfl
  | n :: ns, i, st, ns', st', h => by
    rw [processTop_cons] at h
    obtain ⟨⟨n1, st1⟩, h1, h⟩ := bind_eq_ok h
    obtain ⟨⟨ns1, _⟩, h2, h⟩ := bind_eq_ok h
    cases h
    simp only [traceTop, h1]
    exact (processNode_chained env cfg _ st n n1 st1 h1).append (processTop_chained env cfg ns (i + 1) st1 ns1 st' h2)

theorem processFile_chained (env : CliEnv) (cfg : Cfg) (nodes : List Node) (st0 : St) (out : List Node) (st' : St)
    (h : processFile env cfg nodes st0 = (.written out, st')) :
    Chained env cfg (fileSt env nodes st0) (fileTrace env cfg nodes st0) st' := by
  obtain ⟨nodes', hres, _⟩ := processFile_written h
  exact processTop_chained env cfg nodes 0 _ nodes' st' hres

/-- a reflexive, transitive relation that holds across every visit holds from the start of a chain to its end -/
theorem Chained.lift {env : CliEnv} {cfg : Cfg} {R : St → St → Prop} (refl : ∀ st, R st st)
    (trans : ∀ {a b c}, R a b → R b c → R a c) :
    {st st' : St} → {l : List RuleVisit} → Chained env cfg st l st' →
    (∀ v ∈ l, IsVisit env cfg v → R v.before v.after) → R st st'
  | _, _, [], h, _ => by simp only [Chained] at h; subst h; exact refl _
  | _, _, v :: r, h, hstep => by
    simp only [Chained] at h
    obtain ⟨h1, h2, h3⟩ := h
    subst h1
    exact trans (hstep v (List.mem_cons_self ..) h2)
      (Chained.lift refl trans h3 fun w hw => hstep w (List.mem_cons_of_mem _ hw))

/-- in particular a relation every `processRule` call respects (`VarsInv`, the suffix order of the report) -/
theorem Respected.chained {env : CliEnv} {cfg : Cfg} {R : St → St → Prop} (h : Respected env cfg R) {st st' : St}
    {l : List RuleVisit} (hc : Chained env cfg st l st') : R st st' := by
  refine hc.lift h.refl h.trans fun v _ hv => ?_
  obtain ⟨items', hv⟩ := hv
  have := h.rule v.top v.sel v.items0 v.before
  rwa [hv] at this

theorem fixedSuffix_respected (env : CliEnv) (cfg : Cfg) : Respected env cfg fun a b => a.fixedDetails <:+ b.fixedDetails :=
  ⟨fun _ => List.suffix_refl _, List.IsSuffix.trans,
    fun top sel items st => (processRule_grew env cfg top sel items st).fixedSuffix⟩

theorem Chained.lookup_unchanged {env : CliEnv} {cfg : Cfg} (name : Str) {st st' : St} {l : List RuleVisit}
    (hc : Chained env cfg st l st') (h : ∀ w ∈ l, lookupVar w.after.vars name = lookupVar w.before.vars name) :
    lookupVar st'.vars name = lookupVar st.vars name :=
  hc.lift (R := fun a b => lookupVar b.vars name = lookupVar a.vars name) (fun _ => rfl) (fun h1 h2 => h2.trans h1)
    fun w hw _ => h w hw

end Cm.Cli
