import CmModel.Search
import CmProofs.Order
/-! `(0.8 : α)` elaborates to `OfScientific.ofScientific 8 true 1`, so a schedule is, by `rfl`, `ms.map …` of its numerators. -/
namespace Cm
variable {α : Type} [Num α] [LawfulLit α]

theorem tenths_le (ms : List Nat) (B : Nat) (h : ∀ m ∈ ms, m ≤ B) :
    ∀ thr ∈ ms.map (fun m => (OfScientific.ofScientific m true 1 : α)),
      Num.le thr (OfScientific.ofScientific B true 1 : α) = true := by
  intro thr hthr
  obtain ⟨m, hm, rfl⟩ := List.mem_map.1 hthr
  exact LawfulLit.lit_le m 1 B 1 (Nat.mul_le_mul_right _ (h m hm))

theorem defaultSchedule_le : ∀ thr ∈ (defaultSchedule : List α), Num.le thr (5.0 : α) = true :=
  tenths_le [8, 10, 12, 14, 16, 18, 20, 21, 22, 23, 24, 25, 27, 30, 35, 40, 50] 50 (by decide)

theorem stepSchedule_le : ∀ thr ∈ (stepSchedule : List α), Num.le thr (3.0 : α) = true :=
  tenths_le [8, 10, 12, 14, 16, 18, 20, 22, 25, 28, 30] 30 (by decide)

theorem relaxedSchedule_le : ∀ thr ∈ (relaxedSchedule : List α), Num.le thr (15.0 : α) = true :=
  tenths_le [8, 10, 12, 14, 16, 18, 20, 25, 30, 35, 40, 50, 60, 70, 80, 90, 100, 120, 150] 150 (by decide)

end Cm
