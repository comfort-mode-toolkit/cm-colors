import CmProofs.CliTree
/-!
# Lemmas for the static tie of the per-file loop of `cli/main.py` (C18main)

The Python post-pass walks the *stylesheet* and looks every rule up in `rule_declarations_map`; the model's `processFile`
checks *every entry of the map*. The two agree because the keys of the map are distinct positions of the stylesheet:
the pre-pass creates them in increasing order, below the length of the stylesheet, and processing changes neither the keys
nor the length.
-/
namespace Cm.Cli

/-- `rule_declarations_map.get(i)`: `getRoot` on the map itself (the generated `postpass_rules` receives the map, not a state) -/
def findRoot (m : List (Nat × List Item)) (i : Nat) : Option (List Item) := (m.find? (·.1 = i)).map (·.2)

theorem getRoot_eq_findRoot (st : St) (i : Nat) : getRoot st i = findRoot st.rootDecls i := rfl

theorem postNode_eq_findRoot (st' : St) (i : Nat) (n : Node) :
    postNode st' i n = match n, findRoot st'.rootDecls i with
      | .rule sel _, some its => .rule sel its
      | n, _ => n := rfl

theorem processNodes_keys (env : CliEnv) (cfg : Cfg) (st : St) : (ns : List Node) →
    rootKeys (resSt (processNodes env cfg st ns)).rootDecls = rootKeys st.rootDecls :=
  fun ns => ((rootsLe_respected env cfg).nodes st ns).keys

/-- keys strictly increasing and below `hi`: what makes the keys distinct positions of a stylesheet of length `hi` -/
def KeysBelow (hi : Nat) (ks : List Nat) : Prop := ks.Pairwise (· < ·) ∧ ∀ k ∈ ks, k < hi

theorem prePass_keys (env : CliEnv) (nodes : List Node) : KeysBelow nodes.length (rootKeys (prePass env nodes).rootDecls) := by
  refine ⟨?_, fun k hk => ?_⟩
  · -- positions ascend along `zipIdx`, and `filterMap` keeps the order
    rw [prePass_rootDecls, rootKeys, List.pairwise_map]
    have hp : (nodes.zipIdx 0).Pairwise fun p q => p.2 < q.2 := by
      rw [← List.pairwise_map (f := Prod.snd) (R := (· < ·)), List.zipIdx_map_snd]; exact List.pairwise_lt_range'
    refine hp.filterMap _ fun p q hpq a ha b hb => ?_
    obtain ⟨_, _, rfl⟩ := Option.map_eq_some_iff.1 ha
    obtain ⟨_, _, rfl⟩ := Option.map_eq_some_iff.1 hb
    exact hpq
  · obtain ⟨kv, hkv, rfl⟩ := List.mem_map.1 hk
    obtain ⟨sel, hsel, _⟩ := prePass_roots env nodes kv hkv
    exact (List.getElem?_eq_some_iff.1 hsel).1

theorem find_of_keys_increasing : (m : List (Nat × List Item)) → (rootKeys m).Pairwise (· < ·) → ∀ kv ∈ m, m.find? (·.1 = kv.1) = some kv
  | [], _, kv, h => by simp at h
  | a :: r, hp, kv, h => by
    simp only [rootKeys, List.map_cons, List.pairwise_cons] at hp
    simp only [List.mem_cons] at h
    rcases h with h | h
    · subst h; simp
    · have hlt : a.1 < kv.1 := hp.1 kv.1 (List.mem_map.2 ⟨kv, h, rfl⟩)
      have hne : ¬ a.1 = kv.1 := Nat.ne_of_lt hlt
      rw [List.find?_cons_of_neg (by simpa using hne)]
      exact find_of_keys_increasing r hp.2 kv h

/-- under the key invariant, every entry of the map is serialisable iff every position's entry is -/
theorem all_roots_iff (m : List (Nat × List Item)) (n : Nat) (h : KeysBelow n (rootKeys m)) :
    (m.all fun kv => itemsSerialisable kv.2) = true ↔
      ∀ j, j < n → ∀ its, findRoot m j = some its → itemsSerialisable its = true := by
  constructor
  · intro hall j _ its hf
    unfold findRoot at hf
    cases hfind : m.find? (·.1 = j) with
    | none => rw [hfind] at hf; simp at hf
    | some kv =>
      rw [hfind] at hf
      simp only [Option.map_some, Option.some.injEq] at hf
      rw [← hf]
      exact (List.all_eq_true.1 hall) kv (List.mem_of_find?_eq_some hfind)
  · intro hpos
    rw [List.all_eq_true]
    intro kv hkv
    have hk : kv.1 < n := h.2 kv.1 (List.mem_map.2 ⟨kv, hkv, rfl⟩)
    apply hpos kv.1 hk kv.2
    unfold findRoot
    rw [find_of_keys_increasing m h.1 kv hkv]
    rfl

/-- what the loop `for rule in rules: if id(rule) in rule_declarations_map` checks, position by position -/
def postOk (m : List (Nat × List Item)) : List Node → Nat → Bool
  | [], _ => true
  | _ :: r, i => (match findRoot m i with | some its => itemsSerialisable its | none => true) && postOk m r (i + 1)

theorem postOk_iff (m : List (Nat × List Item)) : (ns : List Node) → (i : Nat) →
    (postOk m ns i = true ↔ ∀ j, j < ns.length → ∀ its, findRoot m (i + j) = some its → itemsSerialisable its = true)
  | [], i => by simp [postOk]
  | n :: r, i => by
    simp only [postOk, Bool.and_eq_true, postOk_iff m r (i + 1), List.length_cons]
    constructor
    · rintro ⟨h0, hr⟩ j hj its hf
      cases j with
      | zero => simp only [Nat.add_zero] at hf; rw [hf] at h0; exact h0
      | succ j =>
        have e : i + (j + 1) = i + 1 + j := by omega
        rw [e] at hf
        exact hr j (by omega) its hf
    · intro h
      refine ⟨?_, ?_⟩
      · cases hf : findRoot m i with
        | none => rfl
        | some its => exact h 0 (by omega) its (by simpa using hf)
      · intro j hj its hf
        have e : i + 1 + j = i + (j + 1) := by omega
        rw [e] at hf
        exact h (j + 1) (by omega) its hf

/-- the loop's check over a stylesheet as long as the key bound is the model's check over the whole map -/
theorem postOk_eq_rootsSerialisable (st' : St) (ns : List Node) (h : KeysBelow ns.length (rootKeys st'.rootDecls)) :
    postOk st'.rootDecls ns 0 = rootsSerialisable st' := by
  rw [Bool.eq_iff_iff, postOk_iff, rootsSerialisable, all_roots_iff _ _ h]
  simp only [Nat.zero_add]

/-- after processing a file the map still has the pre-pass's keys, below the length of the processed stylesheet (processing keeps
    the keys, `RootsLe.keys`, and the shape, hence the length) -/
theorem keysBelow_after (env : CliEnv) (cfg : Cfg) (nodes : List Node) (st0 : St) (nodes' : List Node) (st' : St)
    (h : processTop env cfg nodes 0 (fileSt env nodes st0) = .ok (nodes', st')) :
    KeysBelow nodes'.length (rootKeys st'.rootDecls) := by
  have hk := ((rootsLe_respected env cfg).top nodes 0 (fileSt env nodes st0)).keys
  rw [h] at hk
  have hs := processTop_spec env cfg nodes 0 (fileSt env nodes st0) (prePass_rootInv env nodes)
  rw [h] at hs
  have hl := sameShapeNodes_length hs.1
  have hp := prePass_keys env nodes
  simp only [resSt] at hk
  rw [hk, ← hl]
  exact hp

end Cm.Cli
