import CmModel.Parser
import CmModel.HexVocab
import CmProofs.ParseStr
/-!
# `hex_to_rgb`: the source's digit test and `int(pair, 16)` against the model's `Str.hexVal`

The source validates with `all(c in "0123456789abcdefABCDEF" for c in hex_str)` and converts with `int(pair, 16)`; the
model matches on six characters and uses `Str.hexVal`. The two lemmas that bridge them:
* membership in the 22-character alphabet is exactly `(Str.hexVal c).isSome` (`alphabet_contains_hexVal`);
* `Str.intBase16 [a, b]` is `16 * hexVal a + hexVal b` when both are digits, `ValueError` otherwise (`intBase16_pair`).
-/
namespace Cm.SourceHex
open Cm Cm.Parse Cm.ParseSpec

/-- the literal of the source's digit test -/
def alphabet : Str := "0123456789abcdefABCDEF".toList

theorem hexVal_isSome_eq (c : Char) : (Str.hexVal c).isSome = Str.isHexDigit c := by
  unfold Str.hexVal Str.isHexDigit
  split
  · next h => simp [h.1, h.2]
  · next h1 =>
    split
    · next h => simp [h.1, h.2]
    · next h2 =>
      split
      · next h => simp [h.1, h.2]
      · next h3 =>
        simp only [Option.isSome_none]
        symm
        simp only [Bool.or_eq_false_iff, Bool.and_eq_false_iff, decide_eq_false_iff_not]
        simp only [not_and_or] at h1 h2 h3
        exact ⟨⟨h1, h2⟩, h3⟩

theorem alphabet_contains (c : Char) : alphabet.contains c = Str.isHexDigit c := by
  cases h : Str.isHexDigit c
  · -- every character of the literal is a hex digit
    have all : ∀ x ∈ alphabet, Str.isHexDigit x = true := by decide
    cases hc : alphabet.contains c
    · rfl
    · rw [all c (List.contains_iff_mem.1 hc)] at h; cases h
  · -- a hex digit lies in one of three ranges of code points, each of which the literal spells out
    rw [List.contains_iff_mem]
    unfold Str.isHexDigit at h
    simp only [Bool.or_eq_true, Bool.and_eq_true, decide_eq_true_eq, Char.le_def, UInt32.le_iff_toNat_le] at h
    rcases h with (h | h) | h
    · exact ParseSpec.mem_of_range alphabet 48 10 c (by decide) h.1 (Nat.lt_succ_of_le h.2)
    · exact ParseSpec.mem_of_range alphabet 97 6 c (by decide) h.1 (Nat.lt_succ_of_le h.2)
    · exact ParseSpec.mem_of_range alphabet 65 6 c (by decide) h.1 (Nat.lt_succ_of_le h.2)

theorem alphabet_contains_hexVal (c : Char) : "0123456789abcdefABCDEF".toList.contains c = (Str.hexVal c).isSome := by
  rw [hexVal_isSome_eq]; exact alphabet_contains c

/-- `int(a + b, 16)` for two characters -/
theorem intBase16_pair (a b : Char) :
    Str.intBase16 [a, b] =
      match Str.hexVal a, Str.hexVal b with
      | some x, some y => .ok (Int.ofNat (16 * x + y))
      | _, _ => vErr := by
  unfold Str.intBase16 Str.hexDigitsVal Str.hexDigitsVal Str.hexDigitsVal
  cases Str.hexVal a <;> cases Str.hexVal b <;> simp [vErr]

end Cm.SourceHex
