/-! Forms of `if` that Python's `not` produces in the translated sources; core Lean only, so that the tie files stay light. -/
namespace Cm

/-- `if not c: a else: b` is `if c: b else: a` -/
theorem ite_bnot {β : Type} (c : Bool) (a b : β) : (if (!c) = true then a else b) = if c = true then b else a := by
  cases c <;> rfl

end Cm
