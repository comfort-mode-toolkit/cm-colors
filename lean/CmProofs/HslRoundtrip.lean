import CmModel.Hsl
import CmProofs.RatNum
import CmProofs.Rgb
/-!
# RGB → HSL text → RGB is the identity at the exact carrier

Symbolic, for all rational channel values in `[0, 1]`. The reader's `q`, `p` are the maximum and minimum channel
(`hsl_pq`). In each of the three branches of the hue formula the hue is `(x + k)/6` turns, `k = 0, 2, 4`,
`x = (next - previous)/(max - min)` in `[-1, 1]`; at `x/6` the piecewise-linear `f` gives the three channels `q`, the
positive part of `x` and its negative part (`F_peak`, `F_up`, `F_down`; together `back_sixth`), and a third of a turn
further on the same values sit one place further on (`back_add_third`). One lemma per branch: `sector_r`, `sector_g`,
`sector_b`; `good_all` puts them together with the greys.
-/
namespace Cm
namespace HslRt

/-- `if t < 0: t += 1`, `if t > 1: t -= 1` of `f`; the first step is written out three times, as the model's two `let`s
    unfold, so that `hslF_rat` is by `simp only` -/
def wrap (t : ℚ) : ℚ := if 1 < (if t < 0 then t + 1 else t) then (if t < 0 then t + 1 else t) - 1
  else (if t < 0 then t + 1 else t)
/-- the four pieces of `f` on `[0, 1]` -/
def F0 (p q u : ℚ) : ℚ :=
  if u < 1 / 6 then p + (q - p) * 6 * u
  else if u < 1 / 2 then q
  else if u < 2 / 3 then p + (q - p) * (2 / 3 - u) * 6
  else p
/-- `f(p, q, t)` of `hsl_to_rgb` -/
def F (p q t : ℚ) : ℚ := F0 p q (wrap t)

theorem wrap_mid (t : ℚ) (h0 : 0 ≤ t) (h1 : t ≤ 1) : wrap t = t := by
  unfold wrap; rw [if_neg (not_lt.2 h0), if_neg (not_lt.2 h1)]
theorem wrap_neg (t : ℚ) (h1 : t < 0) : wrap t = t + 1 := by
  unfold wrap; rw [if_pos h1, if_neg (by linarith)]
theorem wrap_big (t : ℚ) (h1 : 1 < t) : wrap t = t - 1 := by
  have h : ¬ t < 0 := by linarith
  unfold wrap; simp only [if_neg h, if_pos h1]

/-! At a boundary point two neighbouring pieces agree, so each piece holds on its closed interval. -/
theorem F0_a (p q u : ℚ) (h1 : u ≤ 1 / 6) : F0 p q u = p + (q - p) * 6 * u := by
  unfold F0
  rcases h1.lt_or_eq with h | rfl
  · rw [if_pos h]
  · rw [if_neg (lt_irrefl _), if_pos (by norm_num)]; ring
theorem F0_b (p q u : ℚ) (h0 : 1 / 6 ≤ u) (h1 : u ≤ 1 / 2) : F0 p q u = q := by
  unfold F0
  rw [if_neg (not_lt.2 h0)]
  rcases h1.lt_or_eq with h | rfl
  · rw [if_pos h]
  · rw [if_neg (lt_irrefl _), if_pos (by norm_num)]; ring
theorem F0_c (p q u : ℚ) (h0 : 1 / 2 ≤ u) (h1 : u ≤ 2 / 3) :
    F0 p q u = p + (q - p) * (2 / 3 - u) * 6 := by
  unfold F0
  rw [if_neg (not_lt.2 (le_trans (by norm_num) h0)), if_neg (not_lt.2 h0)]
  rcases h1.lt_or_eq with h | rfl
  · rw [if_pos h]
  · rw [if_neg (lt_irrefl _)]; ring

theorem F0_d (p q u : ℚ) (h0 : 2 / 3 ≤ u) : F0 p q u = p := by
  unfold F0
  rw [if_neg (not_lt.2 (le_trans (by norm_num) h0)), if_neg (not_lt.2 (le_trans (by norm_num) h0)),
    if_neg (not_lt.2 h0)]

theorem F_add_one (p q t : ℚ) (h0 : -1 ≤ t) (h1 : t ≤ 1) : F p q (t + 1) = F p q t := by
  unfold F
  rcases lt_trichotomy t 0 with h | rfl | h
  · rw [wrap_neg t h, wrap_mid (t + 1) (by linarith) (by linarith)]
  · rw [wrap_mid 0 le_rfl zero_le_one, wrap_mid (0 + 1) (by norm_num) (by norm_num),
      F0_a p q 0 (by norm_num), F0_d p q (0 + 1) (by norm_num)]
    ring
  · rw [wrap_mid t h.le h1, wrap_big (t + 1) (by linarith), add_sub_cancel_right]

/-- the three channels `hsl_to_rgb` computes from `p = mn`, `q = mx` and the normalised hue -/
def back (mx mn hn : ℚ) : ℚ × ℚ × ℚ :=
  (F mn mx (hn + 1 / 3), F mn mx hn, F mn mx (hn - 1 / 3))

theorem back_add_third (mx mn hn : ℚ) (h0 : -2 / 3 ≤ hn) (h1 : hn ≤ 4 / 3) {u v w : ℚ}
    (h : back mx mn hn = (u, v, w)) : back mx mn (hn + 1 / 3) = (w, u, v) := by
  unfold back at h ⊢
  cases h
  rw [add_sub_cancel_right, show hn + 1 / 3 + 1 / 3 = hn - 1 / 3 + 1 by ring,
    F_add_one mn mx _ (by linarith) (by linarith)]

section
variable (p q x : ℚ) (h0 : -1 ≤ x) (h1 : x ≤ 1)
include h0 h1

theorem F_peak : F p q (x / 6 + 1 / 3) = q := by
  unfold F
  rw [wrap_mid _ (by linarith) (by linarith), F0_b p q _ (by linarith) (by linarith)]

theorem F_up : F p q (x / 6) = p + (q - p) * max x 0 := by
  unfold F
  rcases le_or_gt 0 x with h | h
  · rw [wrap_mid _ (by linarith) (by linarith), F0_a p q _ (by linarith), max_eq_left h]; ring
  · rw [wrap_neg _ (by linarith), F0_d p q _ (by linarith), max_eq_right h.le]; ring

theorem F_down : F p q (x / 6 - 1 / 3) = p + (q - p) * max (-x) 0 := by
  unfold F
  rw [wrap_neg _ (by linarith)]
  rcases le_or_gt x 0 with h | h
  · rw [F0_c p q _ (by linarith) (by linarith), max_eq_left (neg_nonneg.2 h)]; ring
  · rw [F0_d p q _ (by linarith), max_eq_right (neg_nonpos.2 h.le)]; ring

end

theorem min_add_pos_part (a b : ℚ) : min a b + max (a - b) 0 = a := by
  rcases le_total a b with h | h
  · rw [min_eq_left h, max_eq_right (sub_nonpos.2 h), add_zero]
  · rw [min_eq_right h, max_eq_left (sub_nonneg.2 h), add_sub_cancel]

/-- `mx` is the maximum channel, `a` the channel after it and `b` the one before it (in the order r, g, b, r),
    `mn = min a b`. At `x` sixths of a turn, `x` the quotient of the hue formula, the reader computes `mx`,
    `mn + (mx - mn)·x⁺ = a` and `mn + (mx - mn)·x⁻ = b`. -/
theorem back_sixth (a b mx : ℚ) (ha : a ≤ mx) (hb : b ≤ mx) (hlt : min a b < mx) :
    let x := (a - b) / (mx - min a b)
    back mx (min a b) (x / 6) = (mx, a, b) ∧ -1 ≤ x ∧ x ≤ 1 := by
  intro x
  have hd : 0 < mx - min a b := sub_pos.2 hlt
  have hm : (mx - min a b) * x = a - b := mul_div_cancel₀ _ hd.ne'
  have x0 : -1 ≤ x := (le_div_iff₀ hd).2 (by linarith only [min_le_left a b, hb])
  have x1 : x ≤ 1 := (div_le_one hd).2 (by linarith only [min_le_right a b, ha])
  have hpos : min a b + (mx - min a b) * max x 0 = a := by
    rw [mul_max_of_nonneg _ _ hd.le, hm, mul_zero, min_add_pos_part]
  have hneg : min a b + (mx - min a b) * max (-x) 0 = b := by
    rw [mul_max_of_nonneg _ _ hd.le, mul_neg, hm, mul_zero, neg_sub, min_comm, min_add_pos_part]
  refine ⟨?_, x0, x1⟩
  unfold back
  rw [F_peak _ _ x x0 x1, F_up _ _ x x0 x1, F_down _ _ x x0 x1, hpos, hneg]

/-- red is the maximum: hue `x % 6` sixths of a turn, in `[0°, 60°]` or, for negative `x`, in `[300°, 360°)` -/
theorem sector_r (r g b : ℚ) (hg : g ≤ r) (hb : b ≤ r) (hlt : min g b < r) :
    let x := (g - b) / (r - min g b)
    let h6 := x - 6 * ⌊x / 6⌋
    0 ≤ h6 ∧ h6 < 6 ∧ back r (min g b) (h6 / 6) = (r, g, b) := by
  intro x h6
  obtain ⟨k0, x0, x1⟩ := back_sixth g b r hg hb hlt
  rcases le_or_gt 0 x with h | h
  · have e : h6 = x := by
      show x - 6 * ⌊x / 6⌋ = x
      rw [Int.floor_eq_zero_iff.2 ⟨by linarith only [h], by linarith only [x1]⟩, Int.cast_zero, mul_zero, sub_zero]
    rw [e]
    exact ⟨h, by linarith only [x1], k0⟩
  · -- a negative `x` is taken a whole turn, three thirds, further on
    have e : h6 = x + 6 := by
      show x - 6 * ⌊x / 6⌋ = x + 6
      rw [show ⌊x / 6⌋ = -1 from
        Int.floor_eq_iff.2 ⟨by push_cast; linarith only [x0], by push_cast; linarith only [h]⟩]
      push_cast; ring
    rw [e, show (x + 6) / 6 = x / 6 + 1 / 3 + 1 / 3 + 1 / 3 by ring]
    refine ⟨by linarith only [x0], by linarith only [h], ?_⟩
    exact back_add_third _ _ _ (by linarith only [x0]) (by linarith only [x1])
      (back_add_third _ _ _ (by linarith only [x0]) (by linarith only [x1])
        (back_add_third _ _ _ (by linarith only [x0]) (by linarith only [x1]) k0))

/-- green is the maximum: hue `x + 2` sixths of a turn, in `[60°, 180°]` -/
theorem sector_g (r g b : ℚ) (hb : b ≤ g) (hr : r ≤ g) (hlt : min b r < g) :
    let x := (b - r) / (g - min b r)
    0 ≤ x + 2 ∧ x + 2 < 6 ∧ back g (min b r) ((x + 2) / 6) = (r, g, b) := by
  intro x
  obtain ⟨k0, x0, x1⟩ := back_sixth b r g hb hr hlt
  rw [show (x + 2) / 6 = x / 6 + 1 / 3 by ring]
  exact ⟨by linarith only [x0], by linarith only [x1],
    back_add_third _ _ _ (by linarith only [x0]) (by linarith only [x1]) k0⟩

/-- blue is the maximum: hue `x + 4` sixths of a turn, in `[180°, 300°]` -/
theorem sector_b (r g b : ℚ) (hr : r ≤ b) (hg : g ≤ b) (hlt : min r g < b) :
    let x := (r - g) / (b - min r g)
    0 ≤ x + 4 ∧ x + 4 < 6 ∧ back b (min r g) ((x + 4) / 6) = (r, g, b) := by
  intro x
  obtain ⟨k0, x0, x1⟩ := back_sixth r g b hr hg hlt
  rw [show (x + 4) / 6 = x / 6 + 1 / 3 + 1 / 3 by ring]
  exact ⟨by linarith only [x0], by linarith only [x1],
    back_add_third _ _ _ (by linarith only [x0]) (by linarith only [x1])
      (back_add_third _ _ _ (by linarith only [x0]) (by linarith only [x1]) k0)⟩

/-- With `d = 1 - |2l - 1|` (`= mx + mn` below the middle, `2 - (mx + mn)` above) the reader's `q` is `l + s·d/2` in both
    branches, and `s·d = mx - mn`. -/
theorem pq_aux (mx mn d s q : ℚ) (hd : 0 < d) (hd1 : mx - mn ≤ d) (hlt : mn < mx)
    (hs : s = (mx - mn) / d) (hq : q = (mx + mn) / 2 + s * d / 2) :
    q = mx ∧ 2 * ((mx + mn) / 2) - q = mn ∧ 0 < s ∧ s ≤ 1 := by
  have hsd : s * d = mx - mn := by rw [hs]; exact div_mul_cancel₀ _ hd.ne'
  have hq' : q = mx := by rw [hq, hsd]; ring
  exact ⟨hq', by rw [hq']; ring, hs ▸ div_pos (sub_pos.2 hlt) hd, hs ▸ (div_le_one hd).2 hd1⟩

theorem hsl_pq (mx mn : ℚ) (h0 : 0 ≤ mn) (h1 : mx ≤ 1) (hlt : mn < mx) :
    let l := (mx + mn) / 2
    let s := (mx - mn) / (1 - |2 * l - 1|)
    let q := if l < 1/2 then l * (1 + s) else l + s - l * s
    q = mx ∧ 2 * l - q = mn ∧ 0 < s ∧ s ≤ 1 := by
  intro l s q
  by_cases hc : l < 1/2
  · have hd : 1 - |2 * l - 1| = mx + mn := by
      rw [abs_of_nonpos (by linarith only [hc])]; show 1 - -(2 * ((mx + mn) / 2) - 1) = _; ring
    have hs : s = (mx - mn) / (mx + mn) := by show (mx - mn) / (1 - |2 * l - 1|) = _; rw [hd]
    have hq : q = (mx + mn) / 2 + s * (mx + mn) / 2 := by
      show (if l < 1/2 then l * (1 + s) else l + s - l * s) = _
      rw [if_pos hc]; show (mx + mn) / 2 * (1 + s) = _; ring
    exact pq_aux mx mn (mx + mn) s q (by linarith only [h0, hlt]) (by linarith only [h0]) hlt hs hq
  · have hd : 1 - |2 * l - 1| = 2 - (mx + mn) := by
      rw [abs_of_nonneg (by linarith only [not_lt.1 hc])]; show 1 - (2 * ((mx + mn) / 2) - 1) = _; ring
    have hs : s = (mx - mn) / (2 - (mx + mn)) := by show (mx - mn) / (1 - |2 * l - 1|) = _; rw [hd]
    have hq : q = (mx + mn) / 2 + s * (2 - (mx + mn)) / 2 := by
      show (if l < 1/2 then l * (1 + s) else l + s - l * s) = _
      rw [if_neg hc]; show (mx + mn) / 2 + s - (mx + mn) / 2 * s = _; ring
    exact pq_aux mx mn (2 - (mx + mn)) s q (by linarith only [h1, hlt]) (by linarith only [h1]) hlt hs hq

def mxOf (r g b : ℚ) : ℚ := max (max r g) b
def mnOf (r g b : ℚ) : ℚ := min (min r g) b
def lOf (r g b : ℚ) : ℚ := (mxOf r g b + mnOf r g b) / 2
def sOf (r g b : ℚ) : ℚ :=
  min 1 ((mxOf r g b - mnOf r g b) / (1 - |2 * lOf r g b - 1|))
/-- hue in sixths of a turn -/
def h6Of (r g b : ℚ) : ℚ :=
  if mxOf r g b = r then
    (g - b) / (mxOf r g b - mnOf r g b) - 6 * (⌊(g - b) / (mxOf r g b - mnOf r g b) / 6⌋ : ℚ)
  else if mxOf r g b = g then (b - r) / (mxOf r g b - mnOf r g b) + 2
  else (r - g) / (mxOf r g b - mnOf r g b) + 4
/-- `rgb_to_hsl` on channel fractions `v/255` -/
def hslOf (r g b : ℚ) : ℚ × ℚ × ℚ :=
  if mxOf r g b - mnOf r g b = 0 then (0, 0, lOf r g b)
  else (h6Of r g b * 60, sOf r g b, lOf r g b)

/-- `hsl_to_rgb` before the final `round(· * 255)` -/
def rgbOf (h s l : ℚ) : ℚ × ℚ × ℚ :=
  if s = 0 then (l, l, l)
  else back (if l < 1 / 2 then l * (1 + s) else l + s - l * s)
    (2 * l - (if l < 1 / 2 then l * (1 + s) else l + s - l * s)) (h / 360)

/-- the numbers `t` pass the reader's range checks (and `h % 360 = h`), and `hsl_to_rgb` computes `(r, g, b)` from them -/
def Good (r g b : ℚ) (t : ℚ × ℚ × ℚ) : Prop :=
  0 ≤ t.1 ∧ t.1 < 360 ∧ 0 ≤ t.2.1 ∧ t.2.1 ≤ 1 ∧ 0 ≤ t.2.2 ∧ t.2.2 ≤ 1 ∧
    rgbOf t.1 t.2.1 t.2.2 = (r, g, b)

theorem good_grey (v : ℚ) (h0 : 0 ≤ v) (h1 : v ≤ 1) : Good v v v (hslOf v v v) := by
  have : hslOf v v v = (0, 0, v) := by
    unfold hslOf lOf mxOf mnOf
    simp
  rw [this]
  refine ⟨le_refl _, by norm_num, le_refl _, by norm_num, h0, h1, ?_⟩
  unfold rgbOf
  rw [if_pos rfl]

theorem good_sector (r g b mx mn h6 : ℚ) (hmx : mxOf r g b = mx) (hmn : mnOf r g b = mn)
    (h0 : 0 ≤ mn) (h1 : mx ≤ 1) (hlt : mn < mx)
    (hh : h6Of r g b = h6) (hh0 : 0 ≤ h6) (hh6 : h6 < 6) (hback : back mx mn (h6 / 6) = (r, g, b)) :
    Good r g b (hslOf r g b) := by
  obtain ⟨hq, hp, hs0, hs1⟩ := hsl_pq mx mn h0 h1 hlt
  have hl : lOf r g b = (mx + mn) / 2 := by unfold lOf; rw [hmx, hmn]
  have hs : sOf r g b = (mx - mn) / (1 - |2 * ((mx + mn) / 2) - 1|) := by
    unfold sOf; rw [hl, hmx, hmn]; exact min_eq_right hs1
  have : hslOf r g b = (h6 * 60, sOf r g b, lOf r g b) := by
    unfold hslOf; rw [hmx, hmn, if_neg (sub_pos.2 hlt).ne', hh]
  rw [this]
  refine ⟨mul_nonneg hh0 (by norm_num), by show h6 * 60 < 360; linarith only [hh6], hs ▸ hs0.le, hs ▸ hs1,
    by rw [hl]; linarith only [h0, hlt], by rw [hl]; linarith only [h1, hlt], ?_⟩
  show rgbOf (h6 * 60) (sOf r g b) (lOf r g b) = (r, g, b)
  unfold rgbOf
  have hturn : h6 * 60 / 360 = h6 / 6 := by ring
  -- `hp`, `hq`: the reader's `p`, `q` are `mn`, `mx`
  rw [if_neg (hs ▸ hs0.ne'), hs, hl, hp, hq, hturn, hback]

/-- one case per branch of the hue formula (which channel is the maximum); a grey is the first branch with `mn = mx` -/
theorem good_all (r g b : ℚ) (hr : 0 ≤ r ∧ r ≤ 1) (hg : 0 ≤ g ∧ g ≤ 1) (hb : 0 ≤ b ∧ b ≤ 1) :
    Good r g b (hslOf r g b) := by
  by_cases hA : g ≤ r ∧ b ≤ r
  · obtain ⟨hgr, hbr⟩ := hA
    have hmx : mxOf r g b = r := by unfold mxOf; rw [max_eq_left hgr, max_eq_left hbr]
    have hmn : mnOf r g b = min g b := by unfold mnOf; rw [min_eq_right hgr]
    rcases (min_le_left g b |>.trans hgr).eq_or_lt with heq | hlt
    · have h1 : g = r := le_antisymm hgr (heq ▸ min_le_left g b)
      have h2 : b = r := le_antisymm hbr (heq ▸ min_le_right g b)
      subst h1 h2
      exact good_grey _ hb.1 hb.2
    · obtain ⟨hh0, hh6, hback⟩ := sector_r r g b hgr hbr hlt
      refine good_sector r g b r _ _ hmx hmn (le_min hg.1 hb.1) hr.2 hlt ?_ hh0 hh6 hback
      unfold h6Of; rw [hmx, hmn, if_pos rfl]
  · by_cases hB : b ≤ g
    · have hrg : r < g := by
        by_contra h; exact hA ⟨not_lt.1 h, le_trans hB (not_lt.1 h)⟩
      have hmx : mxOf r g b = g := by unfold mxOf; rw [max_eq_right hrg.le, max_eq_left hB]
      have hmn : mnOf r g b = min b r := by unfold mnOf; rw [min_eq_left hrg.le, min_comm]
      have hlt : min b r < g := (min_le_right b r).trans_lt hrg
      obtain ⟨hh0, hh6, hback⟩ := sector_g r g b hB hrg.le hlt
      refine good_sector r g b g _ _ hmx hmn (le_min hb.1 hr.1) hg.2 hlt ?_ hh0 hh6 hback
      unfold h6Of; rw [hmx, hmn, if_neg hrg.ne', if_pos rfl]
    · have hgb : g < b := not_le.1 hB
      have hrb : r < b := by
        by_contra h; exact hA ⟨le_trans hgb.le (not_lt.1 h), not_lt.1 h⟩
      have hmx : mxOf r g b = b := by unfold mxOf; exact max_eq_right (max_le hrb.le hgb.le)
      have hmn : mnOf r g b = min r g := by
        unfold mnOf; exact min_eq_left ((min_le_left r g).trans hrb.le)
      have hlt : min r g < b := (min_le_left r g).trans_lt hrb
      obtain ⟨hh0, hh6, hback⟩ := sector_b r g b hrb.le hgb.le hlt
      refine good_sector r g b b _ _ hmx hmn (le_min hr.1 hg.1) hb.2 hlt ?_ hh0 hh6 hback
      unfold h6Of; rw [hmx, hmn, if_neg hrb.ne', if_neg hgb.ne']

theorem hslF_rat (p q t : ℚ) : @hslF ℚ ratNum p q t = F p q t := by
  unfold hslF F F0 wrap
  simp only [rat_lt, rat_gt, rat_add, rat_sub, rat_mul, rat_div, rat_sci, lit0, lit1, lit2, lit3, lit6]

theorem rgbToHsl_rat (R G B : ℚ) :
    @rgbToHsl ℚ ratNum R G B = hslOf (R / 255) (G / 255) (B / 255) := by
  unfold rgbToHsl hslOf h6Of sOf lOf mxOf mnOf
  simp only [rat_add, rat_sub, rat_mul, rat_div, rat_sci, rat_eq, rat_pmax, rat_pmin,
    rat_abs, rat_pmod, lit0, lit1, lit2, lit4, lit6, lit60, lit255]

/-- `round(x * 255)` -/
def rnd (x : ℚ) : ℤ := @Num.roundHE ℚ ratNum (x * 255)

theorem rnd_byte (n : ℤ) : rnd ((n : ℚ) / 255) = n := by
  unfold rnd
  rw [div_mul_cancel₀ _ (by norm_num : (255 : ℚ) ≠ 0), rat_roundHE_int]

theorem hslToRgbCore_rat (h s l : ℚ) :
    @hslToRgbCore ℚ ratNum h s l =
      (rnd (rgbOf h s l).1, rnd (rgbOf h s l).2.1, rnd (rgbOf h s l).2.2) := by
  unfold hslToRgbCore rgbOf back rnd
  simp only [rat_lt, rat_add, rat_sub, rat_mul, rat_div, rat_sci, rat_eq, hslF_rat,
    lit0, lit1, lit2, lit3, lit05, lit255, lit360]
  -- the model rounds inside each branch of `s = 0`, here the rounding stands outside
  split_ifs <;> rfl

theorem rgbToHslText_rat (c : RGB) :
    @rgbToHslText ℚ ratNum c =
      ((hslOf ((c.1 : ℚ) / 255) ((c.2.1 : ℚ) / 255) ((c.2.2 : ℚ) / 255)).1,
       (hslOf ((c.1 : ℚ) / 255) ((c.2.1 : ℚ) / 255) ((c.2.2 : ℚ) / 255)).2.1 * 100,
       (hslOf ((c.1 : ℚ) / 255) ((c.2.1 : ℚ) / 255) ((c.2.2 : ℚ) / 255)).2.2 * 100) := by
  unfold rgbToHslText
  simp only [rgbToHsl_rat, rat_ofInt, rat_mul, rat_sci, lit100]

theorem hslTextToRgb_rat (h s l : ℚ) (hh0 : 0 ≤ h) (hh1 : h < 360) (hs0 : 0 ≤ s) (hs1 : s ≤ 1)
    (hl0 : 0 ≤ l) (hl1 : l ≤ 1) :
    @hslTextToRgb ℚ ratNum (h, s * 100, l * 100) =
      some (rnd (rgbOf h s l).1, rnd (rgbOf h s l).2.1, rnd (rgbOf h s l).2.2) := by
  unfold hslTextToRgb hslInRange
  simp only [rat_pmod, rat_div, rat_sci, rat_le, lit0, lit1, lit100, lit360, Bool.and_eq_true]
  have e1 : s * 100 / 100 = s := by ring
  have e2 : l * 100 / 100 = l := by ring
  have e3 : ⌊h / 360⌋ = 0 :=
    Int.floor_eq_zero_iff.2 ⟨div_nonneg hh0 (by norm_num), (div_lt_one (by norm_num)).2 hh1⟩
  rw [e1, e2, e3, if_pos ⟨⟨hs0, hs1⟩, hl0, hl1⟩, hslToRgbCore_rat, Int.cast_zero, mul_zero, sub_zero]

theorem hslTextToRgb_good {r g b : ℚ} {t : ℚ × ℚ × ℚ} (ht : Good r g b t) :
    @hslTextToRgb ℚ ratNum (t.1, t.2.1 * 100, t.2.2 * 100) = some (rnd r, rnd g, rnd b) := by
  obtain ⟨hh0, hh1, hs0, hs1, hl0, hl1, hback⟩ := ht
  rw [hslTextToRgb_rat _ _ _ hh0 hh1 hs0 hs1 hl0 hl1, hback]

theorem byte_frac (v : ℤ) (h : 0 ≤ v ∧ v ≤ 255) : 0 ≤ (v : ℚ) / 255 ∧ (v : ℚ) / 255 ≤ 1 :=
  ⟨div_nonneg (Int.cast_nonneg h.1) (by norm_num),
    (div_le_one (by norm_num)).2 (by exact_mod_cast h.2)⟩

theorem good_rgb (c : RGB) (hc : validRgb c = true) :
    Good ((c.1 : ℚ) / 255) ((c.2.1 : ℚ) / 255) ((c.2.2 : ℚ) / 255)
      (hslOf ((c.1 : ℚ) / 255) ((c.2.1 : ℚ) / 255) ((c.2.2 : ℚ) / 255)) := by
  obtain ⟨hr, hg, hb⟩ := (validRgb_iff c).1 hc
  exact good_all _ _ _ (byte_frac _ hr) (byte_frac _ hg) (byte_frac _ hb)

end HslRt
end Cm
