import CmModel.Descent
import CmGen.Optimiser
import CmProofs.SourceOpt
import Mathlib.Tactic.SplitIfs
/-!
# `gradient_descent_oklch` as translated from the source equals the model's descent (`gdCost`, `gdGradient`, `gdLoop`,
`descendImpl` wrapped by `gradientDescent`)
-/
open Cm
namespace Cm.SourceOpt
variable {α : Type} [NumT α]
open CmGen.Opt

theorem gd_cost (O : Leaf α) (t bg : RGB) (thr target h : α) (p : α × α) :
    gradient_descent_oklch__cost_function O t bg thr target h p = gdCost O t bg thr target h p := by
  obtain ⟨a, b⟩ := p
  rfl

theorem gd_gradient (O : Leaf α) (t bg : RGB) (thr target h : α) (p : α × α) :
    gradient_descent_oklch__compute_gradient O t bg thr target h p = gdGradient O t bg thr target h p := by
  obtain ⟨a, b⟩ := p
  unfold gradient_descent_oklch__compute_gradient gdGradient
  simp only [gd_cost]

theorem gd_body (O : Leaf α) (t bg : RGB) (thr target h : α) (it : Nat) (cur : α × α) :
    gradient_descent_oklch__loop1 O t bg thr target h (0.02 : α) it cur =
      (let g := gdGradient O t bg thr target h cur
       let lr := (0.02 : α) * NumT.rpow (0.95 : α) (Num.ofInt ((it / 10 : Nat) : Int))
       let nx0 := Num.pmax (0.0 : α) (Num.pmin (1.0 : α) (cur.1 - lr * g.1))
       let nx1 := Num.pmax (0.0 : α) (Num.pmin (0.5 : α) (cur.2 - lr * g.2))
       if Num.lt (Num.abs (gdCost O t bg thr target h cur - gdCost O t bg thr target h (nx0, nx1))) (1e-6 : α) then .brk cur
       else .next (nx0, nx1)) := by
  unfold gradient_descent_oklch__loop1
  simp only [gd_cost, gd_gradient]

/-- the descent loop never `return`s: it stops by `break` or by running out, where the model's loop stops -/
theorem gd_loop (O : Leaf α) (t bg : RGB) (thr target h : α) :
    ∀ (n it : Nat) (cur : α × α),
      loopNI (gradient_descent_oklch__loop1 O t bg thr target h (0.02 : α)) n it cur = .next (gdLoop O t bg thr target h n it cur) ∨
      loopNI (gradient_descent_oklch__loop1 O t bg thr target h (0.02 : α)) n it cur = .brk (gdLoop O t bg thr target h n it cur)
  | 0, it, cur => Or.inl rfl
  | n + 1, it, cur => by
    rw [loopNI, gd_body, gdLoop]
    simp only []
    split_ifs
    · exact Or.inr rfl
    · exact gd_loop O t bg thr target h n (it + 1) _

/-- `gradient_descent_oklch` with its default `max_iter` (`50`) is the descent phase the model's search calls -/
theorem source_gradient_descent (O : Leaf α) (t bg : RGB) (thr target : α) (large : Bool) :
    gradient_descent_oklch O t bg thr target large 50 = gdOf O (descendImpl O) t bg thr target large := by
  unfold gradient_descent_oklch gdOf gradientDescent descendImpl
  rcases O.toOklch t with ⟨l, c, h⟩
  simp only [show (50 : Int).toNat = 50 from rfl]
  rcases gd_loop O t bg thr target h 50 0 (l, c) with hL | hL <;> rw [hL]

end Cm.SourceOpt
