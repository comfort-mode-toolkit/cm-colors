import CmModel.Wcag
import CmModel.Parser
/-! Mathlib-free, so that the parser proofs and the real-number proofs can both import it. -/
namespace Cm

theorem validRgb_iff (c : RGB) : validRgb c = true ↔
    (0 ≤ c.1 ∧ c.1 ≤ 255) ∧ (0 ≤ c.2.1 ∧ c.2.1 ≤ 255) ∧ (0 ≤ c.2.2 ∧ c.2.2 ≤ 255) := by
  unfold validRgb
  simp only [Bool.and_eq_true, decide_eq_true_eq, and_assoc]

theorem clamp255_id {n : Int} (h : 0 ≤ n ∧ n ≤ 255) : Parse.clamp255 n = n := by
  unfold Parse.clamp255; omega

end Cm
