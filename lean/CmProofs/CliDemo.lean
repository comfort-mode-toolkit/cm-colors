import CmProofs.CliTrace
/-!
# Concrete stylesheets for the satisfiability examples of C08 / C09 / C18

Two constant oracles, three stylesheets with their expected outputs, and decidable observers of a trace and of a written file, in
which the examples of C08var state their hypotheses.
-/
namespace Cm.Cli.Demo
open Cm Cm.Cli

def mkDecl (n v : String) : Item :=
  .decl { name := n.toList, lowerName := n.toList, value := v.toList, important := false }

/-- every pair is valid, too faint, and tunable to `#111` -/
def cfgTune : Cfg :=
  { defaultBg := "white".toList,
    pairEval := fun _ _ => { valid := true, raised := false, meets := false, tuned := "#111".toList, ok := true,
                             origLevel := .FAIL, newLevel := .AA } }

/-- every pair is valid, too faint, and cannot be tuned -/
def cfgFail : Cfg :=
  { defaultBg := "white".toList,
    pairEval := fun _ _ => { valid := true, raised := false, meets := false, tuned := [], ok := false,
                             origLevel := .FAIL, newLevel := .FAIL } }

/-- `p { color: #777; } /* c */ @media print { a { margin: 0 } }` -/
def sheet : List Node :=
  [ .rule "p".toList [mkDecl "color" " #777", .other ";".toList true],
    .other "/* c */".toList true,
    .at "media".toList "print".toList [ .rule "a".toList [mkDecl "margin" " 0"] ] ]

def sheetOut : List Node :=
  [ .rule "p".toList [mkDecl "color" "#111", .other ";".toList true],
    .other "/* c */".toList true,
    .at "media".toList "print".toList [ .rule "a".toList [mkDecl "margin" " 0"] ] ]

/-- `:root { --c: #777 } p { color: var(--c) } b { color: var(--c) }` -/
def sheetVar : List Node :=
  [ .rule ":root".toList [mkDecl "--c" " #777"],
    .rule "p".toList [mkDecl "color" " var(--c)"],
    .rule "b".toList [mkDecl "color" " var(--c)"] ]

def sheetVarOut : List Node :=
  [ .rule ":root".toList [mkDecl "--c" "#111"],
    .rule "p".toList [mkDecl "color" " var(--c)"],
    .rule "b".toList [mkDecl "color" " var(--c)"] ]

/-- `:root { --c: #777 } p { color: var(--c) } b { color: #888 }` -/
def sheetVarOnce : List Node :=
  [ .rule ":root".toList [mkDecl "--c" " #777"],
    .rule "p".toList [mkDecl "color" " var(--c)"],
    .rule "b".toList [mkDecl "color" " #888"] ]

def sheetVarOnceOut : List Node :=
  [ .rule ":root".toList [mkDecl "--c" "#111"],
    .rule "p".toList [mkDecl "color" " var(--c)"],
    .rule "b".toList [mkDecl "color" "#111"] ]

/-- decidable form of the hypotheses of `reported_is_written_var_of_no_readjust`: the custom property, and where it is defined -/
def visitVia (env : CliEnv) (cfg : Cfg) (v : RuleVisit) : Option (Str × Nat × Nat) :=
  match lastDecl (seenItems v.top v.items0 v.before) "color".toList with
  | some (_, cd) =>
    if verdict (evalOf env cfg v.before (seenItems v.top v.items0 v.before) cd) = .tuned then
      (viaVarOf env v.before (strip env cd.value)).map fun p => (p.1, p.2.rule, p.2.item)
    else none
  | none => none

theorem visitVia_spec {env : CliEnv} {cfg : Cfg} {v : RuleVisit} {name : Str} {r i : Nat}
    (h : visitVia env cfg v = some (name, r, i)) :
    ∃ ci cd d, lastDecl (seenItems v.top v.items0 v.before) "color".toList = some (ci, cd) ∧
      verdict (evalOf env cfg v.before (seenItems v.top v.items0 v.before) cd) = .tuned ∧
      viaVarOf env v.before (strip env cd.value) = some (name, d) ∧ d.rule = r ∧ d.item = i := by
  unfold visitVia at h
  split at h
  · next ci cd hl =>
    split at h
    · next hv =>
      cases hvar : viaVarOf env v.before (strip env cd.value) with
      | none => simp [hvar] at h
      | some p =>
        obtain ⟨n, d⟩ := p
        simp [hvar] at h
        obtain ⟨rfl, rfl, rfl⟩ := h
        exact ⟨ci, cd, d, hl, hv, hvar, rfl, rfl⟩
    · cases h
  · cases h

/-- the table entry of a name, as comparable data -/
def entryOf (st : St) (name : Str) : Option (Nat × Nat × Str) :=
  (lookupVar st.vars name).map fun d => (d.rule, d.item, d.value)

theorem lookupVar_eq_of_entryOf {s t : St} {name : Str} (h : entryOf s name = entryOf t name) :
    lookupVar s.vars name = lookupVar t.vars name :=
  -- a `VarDef` has no field besides the three `entryOf` lists
  Option.map_injective (fun a b hab => by cases a; cases b; simp at hab ⊢; exact hab) h

def writtenDecl (o : FileOutcome) (r i : Nat) : Option (Str × Str) :=
  match o with
  | .written out =>
    (match out[r]? with
     | some (.rule _ its) => (match its[i]? with | some (.decl dd) => some (dd.name, dd.value) | _ => none)
     | _ => none)
  | .error => none

def isWritten : FileOutcome → Bool
  | .written _ => true
  | .error => false

end Cm.Cli.Demo
