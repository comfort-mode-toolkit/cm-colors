import CmProofs.ParseStr
/-!
# The regex `[-+]?\d*\.?\d+%?` (`_NUM_RE.findall`)

`NumRe.findAll` is fuel-driven; recovered here are its equations for the empty text, for a position where nothing
matches, and for a text that begins with a matched token (`findAll_append_some`). `matchAt` without a
sign is `pctAt ∘ coreAt` (the digits and the point, then the optional `%`); `coreAt` is evaluated on the
shapes CSS uses: `ddd`, `ddd.ddd`, `.ddd`. All of this holds for every oracle (`NumRe.isDig cls` says
what a digit is); in between stand the ASCII digits (`isD`, `digFacts`) the string theorems speak of.
-/
namespace Cm.ParseSpec
open Cm Cm.Parse

/-- fuel beyond `|s| + 1` is never used, and the accumulator only prefixes the result -/
theorem findAll_go_fuel (cls : CharCls) : ∀ (f : Nat) (s : Str) (acc : List Str), s.length + 1 ≤ f →
    NumRe.findAll.go cls f s acc = acc.reverse ++ NumRe.findAll.go cls (s.length + 1) s [] := by
  intro f
  induction f using Nat.strong_induction_on with
  | _ f ih =>
    intro s acc hf
    cases f with
    | zero => omega
    | succ f =>
      cases s with
      | nil => simp [NumRe.findAll.go]
      | cons c cs =>
        have hcs : cs.length + 1 ≤ f := by simpa using hf
        rw [List.length_cons, NumRe.findAll.go, NumRe.findAll.go]
        cases hm : NumRe.matchAt cls (c :: cs) with
        | none => exact ih f (Nat.lt_succ_self f) cs acc hcs
        | some p =>
          obtain ⟨tok, rest⟩ := p
          simp only
          by_cases hl : rest.length < (c :: cs).length
          · rw [if_pos hl, if_pos hl]
            have hr : rest.length + 1 ≤ cs.length + 1 := by rw [List.length_cons] at hl; omega
            rw [ih f (Nat.lt_succ_self f) rest (tok :: acc) (by omega),
              ih (cs.length + 1) (by omega) rest [tok] hr]
            simp
          · rw [if_neg hl, if_neg hl]
            exact ih f (Nat.lt_succ_self f) cs acc hcs

theorem findAll_nil (cls : CharCls) : NumRe.findAll cls [] = [] := by
  simp [NumRe.findAll, NumRe.findAll.go]

theorem findAll_cons_none (cls : CharCls) {c : Char} {cs : Str}
    (h : NumRe.matchAt cls (c :: cs) = none) : NumRe.findAll cls (c :: cs) = NumRe.findAll cls cs := by
  unfold NumRe.findAll
  rw [List.length_cons, NumRe.findAll.go]
  simp only [h]

theorem findAll_append_some (cls : CharCls) {tok rest : Str}
    (h : NumRe.matchAt cls (tok ++ rest) = some (tok, rest)) (hne : tok ≠ []) :
    NumRe.findAll cls (tok ++ rest) = tok :: NumRe.findAll cls rest := by
  obtain ⟨c, cs, rfl⟩ := List.exists_cons_of_ne_nil hne
  have hl : rest.length < (c :: cs ++ rest).length := by
    rw [List.length_append, List.length_cons]; omega
  unfold NumRe.findAll
  rw [List.cons_append] at h hl ⊢
  rw [List.length_cons, NumRe.findAll.go]
  simp only [h, if_pos hl]
  have hr : rest.length + 1 ≤ (cs ++ rest).length + 1 := by rw [List.length_cons] at hl; omega
  rw [findAll_go_fuel cls _ rest [c :: cs] hr]
  simp

def isD (c : Char) : Bool := (asciiDigit c).isSome

theorem isDig_ascii (c : Char) : NumRe.isDig asciiCls c = isD c := rfl

theorem isD_lt (c : Char) (h : isD c = true) : c.toNat < 128 := by
  unfold isD asciiDigit at h
  split at h
  · next h' => exact lt_of_le_of_lt (toNat_le_of_le h'.2) (by decide)
  · cases h

def dv (c : Char) : Nat := (asciiDigit c).getD 0

/-- what the parsers need to know about one digit. The excluded characters: `-` `+` `%` from the regex; `_` from
    `dropUnderscores`; `i` `n` because the body must not begin `inf` / `nan` (`PyFloat.parse`); `,` `/` are the
    separators `hsl_to_rgb` / `hsla_to_rgb` replace -/
def digCharOk (c : Char) : Bool :=
  !isD c ||
    (asciiDigit c == some (dv c) && !asciiIsSpace c && lc c == c &&
     c != '-' && c != '+' && c != '%' && c != '_' && c != 'i' && c != 'n' && c != ',' && c != '/' &&
     !PyFloat.isFloatSpace asciiCls c)

theorem digCharOk_all : (List.range 128).all (fun n => digCharOk (Char.ofNat n)) = true := by
  decide +kernel

structure DigFacts (c : Char) : Prop where
  val : asciiDigit c = some (dv c)
  notSpace : asciiIsSpace c = false
  lc : lc c = c
  ne_minus : c ≠ '-'
  ne_plus : c ≠ '+'
  ne_pct : c ≠ '%'
  ne_us : c ≠ '_'
  ne_i : c ≠ 'i'
  ne_n : c ≠ 'n'
  ne_comma : c ≠ ','
  ne_slash : c ≠ '/'
  notFloatSpace : PyFloat.isFloatSpace asciiCls c = false

theorem digFacts (c : Char) (h : isD c = true) : DigFacts c := by
  have := forall_ascii_of_range digCharOk_all c (isD_lt c h)
  unfold digCharOk at this
  rw [h] at this
  simp only [Bool.not_true, Bool.false_or, Bool.and_eq_true, Bool.not_eq_eq_eq_not,
    bne_iff_ne, ne_eq, beq_iff_eq] at this
  obtain ⟨⟨⟨⟨⟨⟨⟨⟨⟨⟨⟨a1, a2⟩, a3⟩, a4⟩, a5⟩, a6⟩, a7⟩, a8⟩, a9⟩, a10⟩, a11⟩, a12⟩ := this
  exact ⟨a1, a2, a3, a4, a5, a6, a7, a8, a9, a10, a11, a12⟩

def AllD (ds : Str) : Prop := ∀ c ∈ ds, isD c = true

section
variable (cls : CharCls)

theorem takeDigits_append {ds rest : Str} (hd : ∀ c ∈ ds, NumRe.isDig cls c = true)
    (hr : ∀ c r, rest = c :: r → NumRe.isDig cls c = false) :
    NumRe.takeDigits cls (ds ++ rest) = (ds, rest) := by
  unfold NumRe.takeDigits
  have hrest : rest.takeWhile (NumRe.isDig cls) = [] ∧ rest.dropWhile (NumRe.isDig cls) = rest := by
    cases rest with
    | nil => exact ⟨rfl, rfl⟩
    | cons c r =>
      have : NumRe.isDig cls c = false := hr c r rfl
      simp [this]
  rw [List.takeWhile_append_of_pos hd, List.dropWhile_append_of_pos hd, hrest.1, hrest.2]
  simp

/-- the regex without sign and percent sign: `\d*\.?\d+` at the head of `s` -/
def coreAt (s : Str) : Option (Str × Str) :=
  let (d1, r1) := NumRe.takeDigits cls s
  match r1 with
  | '.' :: r2 =>
    let (d2, r3) := NumRe.takeDigits cls r2
    if !d2.isEmpty then some (d1 ++ '.' :: d2, r3)
    else if !d1.isEmpty then some (d1, r1) else none
  | _ => if !d1.isEmpty then some (d1, r1) else none

/-- the optional `%` after it -/
def pctAt (body : Option (Str × Str)) : Option (Str × Str) :=
  match body with
  | none => none
  | some (b, rest) =>
    match rest with
    | '%' :: rest' => some (b ++ ['%'], rest')
    | _ => some (b, rest)

theorem matchAt_nosign {c : Char} (cs : Str) (h2 : c ≠ '-') (h3 : c ≠ '+') :
    NumRe.matchAt cls (c :: cs) = pctAt (coreAt cls (c :: cs)) := by
  unfold NumRe.matchAt pctAt coreAt
  split
  rename_i sign r0 heq
  split at heq
  · rename_i h; cases h; exact absurd rfl h2
  · rename_i h; cases h; exact absurd rfl h3
  · cases heq
    simp only [List.nil_append]
    rfl

theorem pctAt_pct (b rest : Str) : pctAt (some (b, '%' :: rest)) = some (b ++ ['%'], rest) := rfl

theorem pctAt_other {b rest : Str} (h : ∀ r, rest ≠ '%' :: r) :
    pctAt (some (b, rest)) = some (b, rest) := by
  unfold pctAt
  split
  · rename_i he; cases he
  · rename_i b' rest' he
    cases he
    split
    · rename_i r; exact absurd rfl (h r)
    · rfl

/-- a character at which no number token can start -/
def Inert (c : Char) : Prop := NumRe.isDig cls c = false ∧ c ≠ '-' ∧ c ≠ '+' ∧ c ≠ '.'

theorem matchAt_inert {c : Char} (cs : Str) (h : Inert cls c) : NumRe.matchAt cls (c :: cs) = none := by
  obtain ⟨h1, h2, h3, h4⟩ := h
  rw [matchAt_nosign cls cs h2 h3]
  have ht : NumRe.takeDigits cls (c :: cs) = ([], c :: cs) :=
    takeDigits_append cls (ds := []) (rest := c :: cs) (fun _ h => by cases h)
      (fun c' r' he => by cases he; exact h1)
  have hc : coreAt cls (c :: cs) = none := by
    unfold coreAt
    simp only [ht]
    split
    · rename_i h; cases h; exact absurd rfl h4
    · rfl
  rw [hc]
  rfl

theorem coreAt_int {ds rest : Str} (hne : ds ≠ []) (hd : ∀ c ∈ ds, NumRe.isDig cls c = true)
    (hr : ∀ c r, rest = c :: r → NumRe.isDig cls c = false ∧ c ≠ '.') :
    coreAt cls (ds ++ rest) = some (ds, rest) := by
  have hdne : ds.isEmpty = false := List.isEmpty_eq_false_iff.2 hne
  unfold coreAt
  simp only [takeDigits_append cls hd fun c r he => (hr c r he).1]
  split
  · rename_i r2
    exact absurd rfl (hr '.' r2 rfl).2
  · simp only [hdne, Bool.not_false, if_true]

theorem coreAt_frac {ds fs rest : Str} (hpt : NumRe.isDig cls '.' = false)
    (hd : ∀ c ∈ ds, NumRe.isDig cls c = true) (hf : ∀ c ∈ fs, NumRe.isDig cls c = true)
    (hfne : fs ≠ []) (hr : ∀ c r, rest = c :: r → NumRe.isDig cls c = false) :
    coreAt cls (ds ++ '.' :: (fs ++ rest)) = some (ds ++ '.' :: fs, rest) := by
  have hfe : fs.isEmpty = false := List.isEmpty_eq_false_iff.2 hfne
  have h1 : NumRe.takeDigits cls (ds ++ '.' :: (fs ++ rest)) = (ds, '.' :: (fs ++ rest)) :=
    takeDigits_append cls hd fun c r he => by cases he; exact hpt
  unfold coreAt
  simp only [h1, takeDigits_append cls hf hr, hfe, Bool.not_false, if_true]

end

end Cm.ParseSpec
