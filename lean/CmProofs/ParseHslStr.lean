import CmProofs.ParseTok
/-!
# `hsl(…)` strings: from the text to the colour (ASCII oracle, exact carrier)

(The shared lemmas of `ParseTok` are for any faithful oracle; here they are used at `asciiFaithful_ascii`.)
`splitWs` on tokens and runs of blanks; the two `replace`s on separators and tokens; `strip` of text
wrapped in separators; `hsl_tokens` (the text to its three tokens) and `hsl_string` (the tokens to the
colour).
-/
namespace Cm.ParseSpec
open Cm Cm.Parse

theorem splitWs_go_acc (cls : CharCls) : ∀ (s cur : Str) (acc : List Str),
    Str.splitWs.go cls s cur acc = acc.reverse ++ Str.splitWs.go cls s cur [] := by
  intro s
  induction s with
  | nil =>
    intro cur acc
    simp only [Str.splitWs.go]
    cases cur <;> simp
  | cons x xs ih =>
    intro cur acc
    simp only [Str.splitWs.go]
    split
    · rw [ih [] (if cur.isEmpty then acc else cur.reverse :: acc),
        ih [] (if cur.isEmpty then [] else [cur.reverse])]
      cases cur <;> simp
    · exact ih (x :: cur) acc

theorem splitWs_go_tok {t : Str} (ht : ∀ c ∈ t, asciiIsSpace c = false) (xs cur : Str) (acc : List Str) :
    Str.splitWs.go asciiCls (t ++ xs) cur acc = Str.splitWs.go asciiCls xs (t.reverse ++ cur) acc := by
  induction t generalizing cur with
  | nil => rfl
  | cons c cs ih =>
    have hc : asciiCls.isSpace c = false := ht c List.mem_cons_self
    rw [List.cons_append]
    simp only [Str.splitWs.go, hc, Bool.false_eq_true, if_false]
    rw [ih (fun x hx => ht x (List.mem_cons_of_mem _ hx))]
    simp

theorem splitWs_sp_append {w : Str} (hw : AllSp w) (s : Str) :
    Str.splitWs asciiCls (w ++ s) = Str.splitWs asciiCls s := by
  unfold Str.splitWs
  induction w with
  | nil => rfl
  | cons c cs ih =>
    have : c = ' ' := hw c List.mem_cons_self
    subst this
    rw [List.cons_append]
    simp only [Str.splitWs.go]
    have : asciiCls.isSpace ' ' = true := by decide
    simp only [this, if_true, List.isEmpty_nil]
    exact ih fun x hx => hw x (List.mem_cons_of_mem _ hx)

theorem splitWs_nil : Str.splitWs asciiCls [] = [] := by
  simp [Str.splitWs, Str.splitWs.go]

theorem splitWs_tok_sp {t w : Str} (ht : ∀ c ∈ t, asciiIsSpace c = false) (hne : t ≠ []) (hw : AllSp w) (hwne : w ≠ [])
    (rest : Str) : Str.splitWs asciiCls (t ++ (w ++ rest)) = t :: Str.splitWs asciiCls rest := by
  obtain ⟨c, w', rfl⟩ := List.exists_cons_of_ne_nil hwne
  have hc : c = ' ' := hw c List.mem_cons_self
  subst hc
  have hw' : AllSp w' := fun x hx => hw x (List.mem_cons_of_mem _ hx)
  rw [← splitWs_sp_append hw' rest]
  unfold Str.splitWs
  rw [splitWs_go_tok ht, List.cons_append]
  simp only [Str.splitWs.go]
  have : asciiCls.isSpace ' ' = true := by decide
  simp only [this, if_true, List.append_nil]
  have hre : t.reverse.isEmpty = false :=
    List.isEmpty_eq_false_iff.2 (List.reverse_ne_nil_iff.2 hne)
  rw [hre]
  simp only [Bool.false_eq_true, if_false, List.reverse_reverse]
  rw [splitWs_go_acc]
  rfl

theorem splitWs_tok_end {t w : Str} (ht : ∀ c ∈ t, asciiIsSpace c = false) (hne : t ≠ []) (hw : AllSp w) (hwne : w ≠ []) :
    Str.splitWs asciiCls (t ++ w) = [t] := by
  have := splitWs_tok_sp ht hne hw hwne []
  rwa [List.append_nil, splitWs_nil] at this

theorem AllSep.reverse {j : Str} (h : AllSep j) : AllSep j.reverse :=
  fun c hc => h c (List.mem_reverse.1 hc)

theorem AllSep.subset {j j' : Str} (h : AllSep j) (hs : j' ⊆ j) : AllSep j' :=
  fun c hc => h c (hs hc)

theorem strip_sep_wrapped (j0 j3 : Str) {mid : Str} (hne : mid ≠ [])
    (hh : asciiIsSpace (mid.head hne) = false) (hl : asciiIsSpace (mid.getLast hne) = false) :
    Str.strip asciiCls (j0 ++ (mid ++ j3)) =
      j0.dropWhile asciiIsSpace ++ (mid ++ j3.rdropWhile asciiIsSpace) := by
  show ((j0 ++ (mid ++ j3)).dropWhile asciiIsSpace).rdropWhile asciiIsSpace = _
  rw [dropWhile_append_of_fixed (dropWhile_of_head (List.append_ne_nil_of_left_ne_nil hne _)
      (by rw [List.head_append_of_ne_nil hne]; exact hh)),
    ← List.append_assoc,
    rdropWhile_append_of_fixed (rdropWhile_of_last (List.append_ne_nil_of_right_ne_nil _ hne)
      (by rw [List.getLast_append_of_ne_nil _ hne]; exact hl)),
    List.append_assoc]

/-- what `parse_color_to_rgb` and `hsl_to_rgb` find out about `hsl(…)` before the numbers -/
structure HslShape (s body : Str) : Prop where
  strip : Str.strip asciiCls s = s
  lower : Str.lower asciiCls s = s
  lookup : lookupNamed ⟨asciiCls, namedEnv⟩ s = none
  hash : Str.startsWith s ['#'] = false
  bare : isBareHex s = false
  hsla : Str.startsWith s "hsla(".toList = false
  hsl : Str.startsWith s "hsl(".toList = true
  close : Str.endsWith s [')'] = true
  inner : (s.drop 4).dropLast = body

theorem hslShape {body : Str} (hbody : ∀ c ∈ body, LowerFixed c) :
    HslShape ("hsl(".toList ++ body ++ [')']) body := by
  rw [lit_hsl]
  have F := fnText asciiFaithful_ascii (namedEnv_nonletter (by decide)) (pre := ['h', 's', 'l', '(']) (by decide) hbody
  exact ⟨F.strip, F.lower, F.lookup, F.hash, F.bare, by rw [lit_hsla]; rfl, by rw [lit_hsl]; rfl,
    F.close, F.inner⟩

theorem parseHue_signed {sgn b : Str} {neg : Bool} {v : ℚ} (hs : SignOf sgn neg) (hb : Numeral b v)
    (n : List (Str × Str)) :
    @parseHue ℚ ratNum ⟨asciiCls, n⟩ (sgn ++ b) = .ok (pmodQ (if neg then -v else v) 360) := by
  unfold parseHue
  show (do let x ← @PyFloat.parse asciiCls ℚ ratNum (Str.strip asciiCls (sgn ++ b)); _) = _
  rw [strip_tokChars asciiFaithful_ascii (signed_chars hs hb), hb.parse asciiFaithful_ascii hs]
  simp only [bind, Except.bind, pure, Except.pure, lit360]

theorem pctOrDec_pct {b : Str} {v : ℚ} (hb : Numeral b v) (n : List (Str × Str)) :
    @pctOrDec ℚ ratNum ⟨asciiCls, n⟩ (b ++ ['%']) = .ok (v / 100) := by
  unfold pctOrDec
  have hst : Str.strip asciiCls (b ++ ['%']) = b ++ ['%'] := strip_tokChars asciiFaithful_ascii (NumTok.pct hb).chars
  show (if Str.endsWith (Str.strip asciiCls (b ++ ['%'])) ['%'] = true then _ else _) = _
  rw [hst, endsWith_concat, if_pos rfl, List.dropLast_concat]
  show (do let x ← @PyFloat.parse asciiCls ℚ ratNum b; _) = _
  rw [hb.parse_pos asciiFaithful_ascii]
  simp only [bind, Except.bind, pure, Except.pure, rat_div, lit100]

theorem replace_pctTok {b : Str} {v : ℚ} (hb : Numeral b v) :
    Str.replaceChar (Str.replaceChar (b ++ ['%']) ',' [' ']) '%' ['%', ' '] = b ++ ['%', ' '] := by
  have h1 : ',' ∉ b ++ ['%'] := fun hm =>
    (tokCharFacts ((NumTok.pct hb).chars _ hm)).ne_comma rfl
  rw [replaceChar_absent h1, replaceChar_append, replaceChar_absent hb.no_pct]
  rfl

theorem replace_signed {sgn b : Str} {neg : Bool} {v : ℚ} (hs : SignOf sgn neg) (hb : Numeral b v) :
    Str.replaceChar (Str.replaceChar (sgn ++ b) ',' [' ']) '%' ['%', ' '] = sgn ++ b := by
  have h1 : ',' ∉ sgn ++ b := fun hm => (tokCharFacts (signed_chars hs hb _ hm)).ne_comma rfl
  rw [replaceChar_absent h1, replaceChar_absent (signed_no_pct hs hb)]

/-- `replace(",", " ")` turns a run of blanks and commas into as many blanks -/
theorem replaceChar_sep {j : Str} (hj : AllSep j) :
    Str.replaceChar j ',' [' '] = List.replicate j.length ' ' := by
  unfold Str.replaceChar
  induction j with
  | nil => rfl
  | cons c cs ih =>
    rw [List.flatMap_cons, ih fun x hx => hj x (List.mem_cons_of_mem _ hx)]
    rcases hj c List.mem_cons_self with rfl | rfl <;> rfl

theorem replace_sep {j : Str} (hj : AllSep j) :
    ∃ w, AllSp w ∧ (j ≠ [] → w ≠ []) ∧
      Str.replaceChar (Str.replaceChar j ',' [' ']) '%' ['%', ' '] = w := by
  have hw : AllSp (List.replicate j.length ' ') := fun c hc => List.eq_of_mem_replicate hc
  refine ⟨_, hw, fun h => ?_, ?_⟩
  · cases j with
    | nil => exact absurd rfl h
    | cons _ _ => exact List.cons_ne_nil _ _
  · rw [replaceChar_sep hj]
    exact replaceChar_absent (fun hm => absurd (hw _ hm) (by decide)) _

/-- the three tokens `hsl_to_rgb` extracts from `hsl(…)` -/
theorem hsl_tokens {j0 j1 j2 j3 sgn hb sb lb : Str} {neg : Bool} {vh vs vl : ℚ}
    (hs : SignOf sgn neg) (hH : Numeral hb vh) (hS : Numeral sb vs) (hL : Numeral lb vl)
    (h0 : AllSep j0) (h1 : AllSep j1) (hne1 : j1 ≠ []) (h2 : AllSep j2)
    (h3 : AllSep j3) :
    Str.splitWs asciiCls (Str.replaceChar (Str.replaceChar
      (Str.strip asciiCls (j0 ++ (((sgn ++ hb) ++ (j1 ++ ((sb ++ ['%']) ++ (j2 ++ (lb ++ ['%']))))) ++ j3)))
      ',' [' ']) '%' ['%', ' ']) = [sgn ++ hb, sb ++ ['%'], lb ++ ['%']] := by
  -- the text between the outer separators starts with the hue and ends with `%`
  rw [strip_sep_wrapped j0 j3
    (mid := (sgn ++ hb) ++ (j1 ++ ((sb ++ ['%']) ++ (j2 ++ (lb ++ ['%'])))))
    (List.append_ne_nil_of_left_ne_nil (signed_ne_nil hH) _)
    (signed_head asciiFaithful_ascii hs hH _ _)
    (by simpa [List.getLast_append_of_ne_nil] using (by decide : asciiIsSpace '%' = false))]
  obtain ⟨w0, s0, -, e0⟩ := replace_sep (h0.subset (List.dropWhile_suffix _).subset)
  obtain ⟨w1, s1, n1, e1⟩ := replace_sep h1
  obtain ⟨w2, s2, -, e2⟩ := replace_sep h2
  obtain ⟨w3, s3, -, e3⟩ := replace_sep (h3.subset (List.rdropWhile_prefix _ _).subset)
  simp only [replaceChar_append] at e0 e1 e2 e3 ⊢
  rw [e0, e1, e2, e3]
  have eH := replace_signed hs hH
  have eS := replace_pctTok hS
  have eL := replace_pctTok hL
  simp only [replaceChar_append] at eH eS eL
  rw [eH, eS, eL]
  -- the blank that `replace('%', '% ')` puts after each `%` joins the run of blanks that follows
  have re : w0 ++ ((sgn ++ hb) ++ (w1 ++ ((sb ++ ['%', ' ']) ++ (w2 ++ (lb ++ ['%', ' '])))) ++ w3) =
      w0 ++ ((sgn ++ hb) ++ (w1 ++ ((sb ++ ['%']) ++ ((' ' :: w2) ++ ((lb ++ ['%']) ++ (' ' :: w3)))))) := by
    simp only [List.append_assoc, List.cons_append, List.nil_append]
  rw [re, splitWs_sp_append s0,
    splitWs_tok_sp (noSp_of_tokChars asciiFaithful_ascii (signed_chars hs hH)) (signed_ne_nil hH) s1 (n1 hne1),
    splitWs_tok_sp (noSp_of_tokChars asciiFaithful_ascii (NumTok.pct hS).chars) (NumTok.pct hS).ne_nil
      (allSp_sp s2) (List.cons_ne_nil _ _),
    splitWs_tok_end (noSp_of_tokChars asciiFaithful_ascii (NumTok.pct hL).chars) (NumTok.pct hL).ne_nil (allSp_sp s3)
      (List.cons_ne_nil _ _)]

/-- `hsl(H, S%, L%)`: optional sign and fraction in `H`, fractions in `S`, `L`; blanks and commas as
    separators (at least one after the hue) -/
theorem hsl_string {j0 j1 j2 j3 sgn hb sb lb : Str} {neg : Bool} {vh vs vl : ℚ}
    (hs : SignOf sgn neg) (hH : Numeral hb vh) (hS : Numeral sb vs) (hL : Numeral lb vl)
    (h0 : AllSep j0) (h1 : AllSep j1) (hne1 : j1 ≠ []) (h2 : AllSep j2) (h3 : AllSep j3)
    (hvs : vs ≤ 100) (hvl : vl ≤ 100) (bg : Option RGB) :
    @parseStr ℚ ratNum ⟨asciiCls, namedEnv⟩
        ("hsl(".toList ++ (j0 ++ (((sgn ++ hb) ++ (j1 ++ ((sb ++ ['%']) ++ (j2 ++ (lb ++ ['%']))))) ++ j3))
          ++ [')']) bg =
      .ok (@hslToRgbCore ℚ ratNum (pmodQ (if neg then -vh else vh) 360) (vs / 100) (vl / 100)) := by
  -- the body is in lower case, piece by piece
  have lH := low_of_tokChars (signed_chars hs hH)
  have lS := low_of_tokChars (NumTok.pct hS).chars
  have lL := low_of_tokChars (NumTok.pct hL).chars
  have hbody : ∀ c ∈ j0 ++ (((sgn ++ hb) ++ (j1 ++ ((sb ++ ['%']) ++ (j2 ++ (lb ++ ['%']))))) ++ j3),
      LowerFixed c :=
    low_append (sep_low h0) (low_append
      (low_append lH (low_append (sep_low h1) (low_append lS (low_append (sep_low h2) lL))))
      (sep_low h3))
  have S := hslShape hbody
  have htok := hsl_tokens hs hH hS hL h0 h1 hne1 h2 h3
  have hsr := unit_of_pct hS.nonneg hvs
  have hlr := unit_of_pct hL.nonneg hvl
  unfold parseStr
  simp only [S.strip, S.lower, S.lookup, S.hash, S.bare, S.hsla, S.hsl, Bool.or_self,
    Bool.false_eq_true, if_false, if_true]
  unfold hslStrToRgb
  simp only [S.strip, S.lower, S.hsl, S.close, S.inner, Bool.not_true, Bool.or_self,
    Bool.false_eq_true, if_false, htok, parseHue_signed hs hH, pctOrDec_pct hS, pctOrDec_pct hL]
  simp only [bind, Except.bind]
  exact hslFinish_rat hsr.1 hsr.2 hlr.1 hlr.2

end Cm.ParseSpec
