import CmProofs.ParseSpec
/-!
# Totality of `parse_color_to_rgb` (helpers for C14)

Two compositional predicates on `Except PyErr β` computations:

* `ErrIn P x`  : every error `x` can produce satisfies `P`;
* `Post P Q x` : moreover every value `x` can produce satisfies `Q`.

Both come with rules for a returned value, a raised error, `>>=` and `if`. The lemma of a function
is its control flow written once with these rules (a `match` is met by `split`), naming the lemma of
each callee where the callee is reached. It is an `ErrIn` lemma `X_errors` where only the error class
matters, a `Post` lemma where the results matter too: that one is named after what it says of a
result, and `X_errors` is its `.errors`. Everything before the last section holds for **every**
carrier `[Num α]` (no laws); the last section specialises the three numeric kernels (`hslFinish`,
`hslaFinish`, `rgbaToRgb`) to the exact rational carrier `ratNum`.
-/
namespace Cm.ParseTotal
open Cm Cm.Parse

/-- the error class of a computation: whatever `x` raises satisfies `P` (whether it raises is not said) -/
def ErrIn {β : Type} (P : PyErr → Prop) (x : Except PyErr β) : Prop := ∀ e, x = .error e → P e

abbrev OnlyV (e : PyErr) : Prop := e = .valueError
/-- `ValueError` or `TypeError` (`Color._parse` catches both, and `OverflowError`) -/
abbrev VorT (e : PyErr) : Prop := e = .valueError ∨ e = .typeError

section rules
variable {β γ : Type} {P : PyErr → Prop}

/-- a returned value (`pure v` unfolds to `.ok v`, so this rule closes both) -/
theorem ErrIn.ok (v : β) : ErrIn P (Except.ok v) := fun _ h => by cases h
theorem ErrIn.err {e : PyErr} (h : P e) : ErrIn P (Except.error e : Except PyErr β) :=
  fun _ h' => by cases h'; exact h
theorem ErrIn.vErr (h : P .valueError) : ErrIn P (vErr : Except PyErr β) := ErrIn.err h
theorem ErrIn.bind {x : Except PyErr β} {f : β → Except PyErr γ}
    (hx : ErrIn P x) (hf : ∀ v, ErrIn P (f v)) : ErrIn P (x >>= f) := by
  intro e h
  cases x with
  | error e' => cases h; exact hx _ rfl
  | ok v => exact hf v e h
theorem ErrIn.ite {c : Prop} [Decidable c] {a b : Except PyErr β}
    (ha : ErrIn P a) (hb : ErrIn P b) : ErrIn P (if c then a else b) := by
  split <;> assumption
theorem ErrIn.toVorT {x : Except PyErr β} (h : ErrIn OnlyV x) : ErrIn VorT x :=
  fun e he => Or.inl (h e he)
end rules

/-- whatever `x` raises satisfies `P`, and whatever it returns satisfies `Q`: the error class of a function and
    what is known of its results, obtained in one walk over its control flow -/
structure Post {β : Type} (P : PyErr → Prop) (Q : β → Prop) (x : Except PyErr β) : Prop where
  errors : ErrIn P x
  value : ∀ {v}, x = .ok v → Q v

section rules
variable {β γ : Type} {P : PyErr → Prop} {Q : γ → Prop}

theorem Post.ok {v : γ} (h : Q v) : Post P Q (Except.ok v) :=
  ⟨ErrIn.ok v, fun h' => by cases h'; exact h⟩
theorem Post.vErr (h : P .valueError) : Post P Q (vErr : Except PyErr γ) :=
  ⟨ErrIn.vErr h, nofun⟩
/-- `x >>= f` where the continuation rests on what the lemma of `x` says of its result -/
theorem Post.bind_post {Q' : β → Prop} {x : Except PyErr β} {f : β → Except PyErr γ}
    (hx : Post P Q' x) (hf : ∀ v, Q' v → Post P Q (f v)) : Post P Q (x >>= f) := by
  cases x with
  | error e => exact ⟨ErrIn.err (hx.errors e rfl), nofun⟩
  | ok v => exact hf v (hx.value rfl)
/-- `x >>= f` where of `x` the error class is all that is asked -/
theorem Post.bind {x : Except PyErr β} {f : β → Except PyErr γ}
    (hx : ErrIn P x) (hf : ∀ v, Post P Q (f v)) : Post P Q (x >>= f) :=
  Post.bind_post (Q' := fun _ => True) ⟨hx, fun _ => trivial⟩ fun v _ => hf v
theorem Post.ite {c : Prop} [Decidable c] {a b : Except PyErr γ}
    (ha : c → Post P Q a) (hb : ¬c → Post P Q b) : Post P Q (if c then a else b) := by
  split
  · exact ha ‹_›
  · exact hb ‹_›
theorem Post.mono {Q' : γ → Prop} {x : Except PyErr γ} (h : Post P Q x) (hQ : ∀ v, Q v → Q' v) :
    Post P Q' x := ⟨h.errors, fun hv => hQ _ (h.value hv)⟩
theorem Post.toVorT {x : Except PyErr γ} (h : Post OnlyV Q x) : Post VorT Q x :=
  ⟨h.errors.toVorT, h.value⟩
end rules

variable {α : Type} [Num α]

/-- `float(str)` fails with `ValueError` only: every leaf of `PyFloat.parse` is `.ok _` or
    `.error .valueError` -/
theorem floatParse_errors (cls : CharCls) (s : Str) : ErrIn OnlyV (PyFloat.parse (α := α) cls s) := by
  unfold PyFloat.parse
  extract_lets s1
  split                                   -- misplaced underscore
  · exact ErrIn.err rfl
  split                                   -- (neg, body)
  extract_lets lb
  refine ErrIn.ite (ErrIn.ok _) (ErrIn.ite (ErrIn.ok _) ?_)   -- inf, nan
  split                                   -- (iv, ic, r1)
  split                                   -- (fv, fc, r2)
  extract_lets hasDot
  refine ErrIn.ite (ErrIn.err rfl) ?_     -- no digit at all
  split                                   -- r2 = [] | e :: r3
  · exact ErrIn.ok _
  refine ErrIn.ite ?_ (ErrIn.err rfl)     -- exponent marker
  split                                   -- (eneg, r4)
  split                                   -- (ev, ec, r5)
  exact ErrIn.ite (ErrIn.err rfl) (ErrIn.ok _)

theorem floatOrValueError_errors {E : PEnv} {s : Str} :
    ErrIn OnlyV (floatOrValueError (α := α) E s) := by
  unfold floatOrValueError
  split
  · exact ErrIn.ok _
  · exact ErrIn.vErr rfl

theorem rangeToken_errors {v : α} {component : Bool} : ErrIn OnlyV (rangeToken v component) :=
  ErrIn.ite (ErrIn.ite (ErrIn.ok _) (ErrIn.vErr rfl))
    (ErrIn.ite (ErrIn.ok _) (ErrIn.ite (ErrIn.ok _) (ErrIn.vErr rfl)))

theorem numberToken_errors {E : PEnv} {tok : Str} {component : Bool} :
    ErrIn OnlyV (numberToken (α := α) E tok component) :=
  ErrIn.ite
    (ErrIn.bind floatOrValueError_errors fun _ => ErrIn.ite (ErrIn.ok _) (ErrIn.ok _))
    (ErrIn.bind floatOrValueError_errors fun _ => rangeToken_errors)

theorem numberTokenOfVal_errors {E : PEnv} {v : PyVal α} {component : Bool} :
    ErrIn OnlyV (numberTokenOfVal E v component) := by
  unfold numberTokenOfVal
  split
  · exact rangeToken_errors
  · exact numberToken_errors
  · exact ErrIn.vErr rfl

theorem pctOrDec_errors {E : PEnv} {v : Str} : ErrIn OnlyV (pctOrDec (α := α) E v) :=
  ErrIn.ite (ErrIn.bind (floatParse_errors _ _) fun _ => ErrIn.ok _)
    (ErrIn.bind (floatParse_errors _ _) fun _ => ErrIn.ite (ErrIn.ok _) (ErrIn.vErr rfl))

/-- `float(v)` on an arbitrary value: `ValueError` (bad text) or `TypeError` (`None`, containers) -/
theorem toFloat_errors {cls : CharCls} {v : PyVal α} : ErrIn VorT (v.toFloat cls) := by
  cases v with
  | str s => exact (floatParse_errors cls s).toVorT
  | int _ | float _ | bool _ => exact ErrIn.ok _
  | none | list _ | tuple _ => exact ErrIn.err (Or.inr rfl)

theorem rgbComponent_errors {E : PEnv} {c : PyVal α} : ErrIn OnlyV (rgbComponent E c) := by
  unfold rgbComponent
  split
  · exact ErrIn.ite (ErrIn.ok _) (ErrIn.ite (ErrIn.ok _) (ErrIn.vErr rfl))
  · exact ErrIn.ite (ErrIn.ok _) (ErrIn.vErr rfl)
  · exact ErrIn.ok _
  · exact ErrIn.bind numberToken_errors fun _ => ErrIn.ok _
  · exact ErrIn.vErr rfl

theorem bgParsed_errors {bg : Option RGB} : ErrIn OnlyV (bgParsed bg) := by
  unfold bgParsed
  split
  · exact ErrIn.ok _
  · exact ErrIn.ite (ErrIn.ok _) (ErrIn.vErr rfl)

theorem hexByte_mem {a b : Char} {x y : Nat} (ha : Str.hexVal a = some x)
    (hb : Str.hexVal b = some y) : 0 ≤ Int.ofNat (16 * x + y) ∧ Int.ofNat (16 * x + y) ≤ 255 := by
  have := ParseSpec.hexVal_lt ha
  have := ParseSpec.hexVal_lt hb
  simp only [Int.ofNat_eq_natCast]
  omega

/-- `hex_to_rgb` returns 8-bit channels (no carrier involved) -/
theorem hexToRgb_valid (E : PEnv) (s : Str) :
    Post OnlyV (fun c => validRgb c = true) (hexToRgb E s) := by
  unfold hexToRgb
  extract_lets s1 s2
  clear_value s2
  split
  · split
    · next ha hb hc hd he hf =>
      exact Post.ok ((validRgb_iff _).2 ⟨hexByte_mem ha hb, hexByte_mem hc hd, hexByte_mem he hf⟩)
    · exact Post.vErr rfl
  · exact Post.vErr rfl

theorem hexToRgb_errors {E : PEnv} {s : Str} : ErrIn OnlyV (hexToRgb E s) := (hexToRgb_valid E s).errors

/-- `_parse_hue` returns a hue reduced mod 360 -/
theorem parseHue_reduced {E : PEnv} {v : Str} :
    Post OnlyV (fun h : α => ∃ x : α, h = Num.pmod x (360.0 : α)) (parseHue (α := α) E v) :=
  Post.bind (floatParse_errors _ _) fun x => Post.ok ⟨x, rfl⟩

theorem parseHue_errors {E : PEnv} {v : Str} : ErrIn OnlyV (parseHue (α := α) E v) :=
  parseHue_reduced.errors

/-! The three numeric kernels succeed only past their range checks. -/

theorem hslFinish_guards {h s l : α} :
    Post OnlyV (fun c => hslInRange s l = true ∧ c = hslToRgbCore h s l) (hslFinish h s l) :=
  Post.ite (fun hr => Post.ok ⟨hr, rfl⟩) fun _ => Post.vErr rfl

theorem hslFinish_errors {h s l : α} : ErrIn OnlyV (hslFinish h s l) := hslFinish_guards.errors

theorem hslaFinish_guards {h s l a : α} {bg : Option RGB} :
    Post OnlyV (fun _ => hslInRange s l = true ∧ (Num.le (0.0 : α) a && Num.le a (1.0 : α)) = true)
      (hslaFinish h s l a bg) := by
  refine Post.ite (fun _ => Post.vErr rfl) fun hg => ?_
  rw [Bool.not_eq_true, Bool.not_eq_false', Bool.and_eq_true] at hg
  exact Post.bind hslFinish_errors fun _ => Post.ite (fun _ => Post.ok hg) fun _ => Post.ok hg

theorem hslaFinish_errors {h s l a : α} {bg : Option RGB} : ErrIn OnlyV (hslaFinish h s l a bg) :=
  hslaFinish_guards.errors

/-- `rgba_to_rgb` validates the colour, alpha and the background -/
theorem rgbaToRgb_guards {r g b : Int} {a : α} {k : RGB} :
    Post OnlyV (fun _ => validRgb (r, g, b) = true ∧
      (Num.le (0.0 : α) a && Num.le a (1.0 : α)) = true ∧ validRgb k = true) (rgbaToRgb r g b a k) := by
  refine Post.ite (fun _ => Post.vErr rfl) fun hv => Post.ite (fun _ => Post.vErr rfl) fun ha =>
    Post.ite (fun _ => Post.vErr rfl) fun hk => Post.ok ?_
  rw [Bool.not_eq_true, Bool.not_eq_false'] at hv ha hk
  exact ⟨hv, ha, hk⟩

theorem rgbaToRgb_errors {r g b : Int} {a : α} {k : RGB} : ErrIn OnlyV (rgbaToRgb r g b a k) :=
  rgbaToRgb_guards.errors

variable (α) in
/-- an output of `hsl_to_rgb`, on either form of input: of `hslFinish` at a hue reduced mod 360 -/
def HslKernel (c : RGB) : Prop := ∃ x s l : α, hslFinish (Num.pmod x (360.0 : α)) s l = .ok c

variable (α) in
/-- where a successful parse comes from: validated explicitly (`is_valid_rgb` after `clamp255`, or the hex
    reader), or the output of one of the three numeric kernels -/
def Kernel (bg : Option RGB) (c : RGB) : Prop :=
  validRgb c = true ∨ HslKernel α c ∨
  (∃ h s l a : α, hslaFinish h s l a bg = .ok c) ∨
  (∃ (r g b : Int) (a : α) (k : RGB), rgbaToRgb r g b a k = .ok c)

theorem hslFinish_kernel {h s l : α} (hh : ∃ x : α, h = Num.pmod x (360.0 : α)) :
    Post OnlyV (HslKernel α) (hslFinish h s l) := by
  obtain ⟨x, rfl⟩ := hh
  exact ⟨hslFinish_errors, fun hc => ⟨x, s, l, hc⟩⟩

theorem hslaFinish_kernel {bg : Option RGB} {h s l a : α} :
    Post OnlyV (Kernel α bg) (hslaFinish h s l a bg) :=
  ⟨hslaFinish_errors, fun hc => Or.inr (Or.inr (Or.inl ⟨h, s, l, a, hc⟩))⟩

theorem rgbaToRgb_kernel {bg : Option RGB} {r g b : Int} {a : α} {k : RGB} :
    Post OnlyV (Kernel α bg) (rgbaToRgb r g b a k) :=
  ⟨rgbaToRgb_errors, fun hc => Or.inr (Or.inr (Or.inr ⟨r, g, b, a, k, hc⟩))⟩

theorem hslStrToRgb_kernel (E : PEnv) (s : Str) :
    Post OnlyV (HslKernel α) (hslStrToRgb (α := α) E s) := by
  unfold hslStrToRgb
  simp only
  refine Post.ite (fun _ => Post.vErr rfl) fun _ => ?_    -- not `hsl(…)`
  split
  · exact Post.bind_post parseHue_reduced fun _ hh =>
      Post.bind pctOrDec_errors fun _ => Post.bind pctOrDec_errors fun _ => hslFinish_kernel hh
  · exact Post.vErr rfl                                   -- fewer than three parts

theorem hslStrToRgb_errors {E : PEnv} {s : Str} : ErrIn OnlyV (hslStrToRgb (α := α) E s) :=
  (hslStrToRgb_kernel E s).errors

theorem hslSeqToRgb_kernel (E : PEnv) (h s l : PyVal α) :
    Post OnlyV (HslKernel α) (hslSeqToRgb E h s l) := by
  unfold hslSeqToRgb
  extract_lets dec rest
  have hdec : ∀ v, ErrIn OnlyV (dec v) := by
    intro v
    simp only [dec]
    split
    · exact ErrIn.ite (ErrIn.ok _) (ErrIn.vErr rfl)
    · exact pctOrDec_errors
    · exact ErrIn.vErr rfl
  -- `rest`: what the `do` block does once the hue is known
  have hrest : ∀ hv, (∃ x : α, hv = Num.pmod x (360.0 : α)) → Post OnlyV (HslKernel α) (rest hv) :=
    fun _ hh => Post.bind (hdec s) fun _ => Post.bind (hdec l) fun _ => hslFinish_kernel hh
  split
  · exact hrest _ ⟨_, rfl⟩                                -- a number, reduced on the spot
  · exact Post.bind_post parseHue_reduced hrest           -- text, through `_parse_hue`
  · exact Post.vErr rfl

theorem hslSeqToRgb_errors {E : PEnv} {h s l : PyVal α} : ErrIn OnlyV (hslSeqToRgb E h s l) :=
  (hslSeqToRgb_kernel E h s l).errors

theorem hslaStrToRgb_kernel (E : PEnv) (s : Str) (bg : Option RGB) :
    Post OnlyV (Kernel α bg) (hslaStrToRgb (α := α) E s bg) := by
  have hp := floatParse_errors (α := α) E.cls
  unfold hslaStrToRgb
  extract_lets text content0 content parts
  clear_value parts
  refine Post.ite (fun _ => Post.vErr rfl) fun _ => ?_    -- not `hsla(…)`
  split
  · refine Post.bind (hp _) fun h0 => ?_                  -- `[p0, p1, p2, p3]`; `h0 = float(p0)`
    -- `afterS`: what the `do` block does once the saturation is known
    extract_lets h afterS
    have hS : ∀ s, Post OnlyV (Kernel α bg) (afterS s) := fun s =>
      Post.ite
        (fun _ =>                                         -- the lightness part is empty:
          Post.bind (ErrIn.ok _) fun _ =>                 --   `l = 0.0`
          Post.bind (hp _) fun _ =>                       --   `a0 = float(p3)`
          hslaFinish_kernel)
        (fun _ =>                                         -- it is not:
          Post.bind (hp _) fun _ =>                       --   `x = float(p2)`
          Post.bind (ErrIn.ok _) fun _ =>                 --   `l = x / 100`
          Post.bind (hp _) fun _ =>                       --   `a0 = float(p3)`
          hslaFinish_kernel)
    -- the saturation part, read the same way
    exact Post.ite (fun _ => Post.bind (ErrIn.ok _) fun _ => hS _)
      fun _ => Post.bind (hp _) fun _ => Post.bind (ErrIn.ok _) fun _ => hS _
  · exact Post.vErr rfl                                   -- not four parts

theorem hslaStrToRgb_errors {E : PEnv} {s : Str} {bg : Option RGB} :
    ErrIn OnlyV (hslaStrToRgb (α := α) E s bg) := (hslaStrToRgb_kernel E s bg).errors

/-- `hsla_to_rgb` applied to a 4-sequence calls `float()` on each element: the one source of
    `TypeError` -/
theorem hslaSeqToRgb_kernel (E : PEnv) (h s l a : PyVal α) (bg : Option RGB) :
    Post VorT (Kernel α bg) (hslaSeqToRgb E h s l a bg) :=
  Post.bind toFloat_errors fun _ => Post.bind toFloat_errors fun _ =>
    Post.bind toFloat_errors fun _ => Post.bind toFloat_errors fun _ =>
      hslaFinish_kernel.toVorT

theorem hslaSeqToRgb_errors {E : PEnv} {h s l a : PyVal α} {bg : Option RGB} :
    ErrIn VorT (hslaSeqToRgb E h s l a bg) := (hslaSeqToRgb_kernel E h s l a bg).errors

variable (α) in
/-- where a successfully parsed *string* comes from: validated explicitly (keyword, hex notation, three numeric
    tokens), or what `hsla_to_rgb` / `hsl_to_rgb` made of a text with that prefix, or `rgba_to_rgb` of four or
    more tokens -/
def StrCases (E : PEnv) (s : Str) (bg : Option RGB) (c : RGB) : Prop :=
  validRgb c = true ∨
  (Str.startsWith (Str.lower E.cls (Str.strip E.cls s)) "hsla(".toList = true ∧
    hslaStrToRgb (α := α) E (Str.strip E.cls s) bg = .ok c) ∨
  (Str.startsWith (Str.lower E.cls (Str.strip E.cls s)) "hsl(".toList = true ∧
    hslStrToRgb (α := α) E (Str.strip E.cls s) = .ok c) ∨
  (4 ≤ (NumRe.findAll E.cls (Str.lower E.cls (Str.strip E.cls s))).length ∧
    ∃ (r g b : Int) (a : α) (k : RGB), rgbaToRgb r g b a k = .ok c)

theorem parseStr_cases (E : PEnv) (s : Str) (bg : Option RGB) :
    Post OnlyV (StrCases α E s bg) (parseStr (α := α) E s bg) := by
  have hex : ∀ t, Post OnlyV (StrCases α E s bg) (hexToRgb E t) :=
    fun t => (hexToRgb_valid E t).mono fun _ => Or.inl
  have hsla : Str.startsWith (Str.lower E.cls (Str.strip E.cls s)) "hsla(".toList = true →
      Post OnlyV (StrCases α E s bg) (hslaStrToRgb (α := α) E (Str.strip E.cls s) bg) :=
    fun hp => ⟨hslaStrToRgb_errors, fun hc => Or.inr (Or.inl ⟨hp, hc⟩)⟩
  have hsl : Str.startsWith (Str.lower E.cls (Str.strip E.cls s)) "hsl(".toList = true →
      Post OnlyV (StrCases α E s bg) (hslStrToRgb (α := α) E (Str.strip E.cls s)) :=
    fun hp => ⟨hslStrToRgb_errors, fun hc => Or.inr (Or.inr (Or.inl ⟨hp, hc⟩))⟩
  have rgba : ∀ {t0 t1 t2 t3 : Str} {rest : List Str} (r g b : Int) (a : α) (k : RGB),
      NumRe.findAll E.cls (Str.lower E.cls (Str.strip E.cls s)) = t0 :: t1 :: t2 :: t3 :: rest →
      Post OnlyV (StrCases α E s bg) (rgbaToRgb r g b a k) :=
    fun r g b a k hf => ⟨rgbaToRgb_errors, fun hc =>
      Or.inr (Or.inr (Or.inr ⟨by rw [hf]; simp, r, g, b, a, k, hc⟩))⟩
  unfold parseStr
  simp only
  split
  · exact hex _                                           -- a keyword
  refine Post.ite (fun _ => hex _) fun _ =>               -- `#…` or bare hex digits
    Post.ite hsla fun _ => Post.ite hsl fun _ =>
    Post.ite (fun _ => ?_) fun _ => Post.vErr rfl         -- looks like `rgb(…)`; anything else
  split
  · next hf =>                                            -- four or more tokens
    split
    · exact Post.vErr rfl
    · next r g b a _ => exact Post.bind bgParsed_errors fun k => rgba r g b a k hf
  · split                                                 -- three tokens
    · exact Post.vErr rfl
    · exact Post.ite (fun h => Post.ok (Or.inl h)) fun _ => Post.vErr rfl
  · exact Post.vErr rfl

theorem parseStr_errors {E : PEnv} {s : Str} {bg : Option RGB} :
    ErrIn OnlyV (parseStr (α := α) E s bg) := (parseStr_cases E s bg).errors

theorem parseColor_list (E : PEnv) (xs : List (PyVal α)) (bg : Option RGB) :
    parseColor E (.list xs) bg = parseColor E (.tuple xs) bg := rfl

/-- stated for the tuple; the code does not distinguish a list (`parseColor_list`) -/
theorem seq3_cases (E : PEnv) (r g b : PyVal α) (bg : Option RGB) :
    Post OnlyV (fun c => validRgb c = true ∨ hslSeqToRgb E r g b = .ok c)
      (parseColor E (.tuple [r, g, b]) bg) := by
  unfold parseColor
  simp only
  refine Post.ite (fun _ => ?_) fun _ => ?_
  -- looks like HSL: whatever `hsl_to_rgb` returns
  · exact ⟨hslSeqToRgb_errors, Or.inr⟩
  -- else the three components, then `is_valid_rgb` on the clamped triple
  · exact Post.bind rgbComponent_errors fun _ => Post.bind rgbComponent_errors fun _ =>
      Post.bind rgbComponent_errors fun _ => Post.ite (fun h => Post.ok (Or.inl h)) fun _ => Post.vErr rfl

theorem parseColor_kernel (E : PEnv) (v : PyVal α) (bg : Option RGB) :
    Post VorT (Kernel α bg) (parseColor E v bg) := by
  have hseq : ∀ xs : List (PyVal α), Post VorT (Kernel α bg) (parseColor E (.tuple xs) bg) := by
    intro xs
    unfold parseColor
    simp only
    split
    -- `[r, g, b]`: the branch is what `parseColor E (.tuple [r, g, b]) bg` unfolds to
    · exact (seq3_cases E _ _ _ bg).toVorT.mono fun c h =>
        h.elim Or.inl fun hc => Or.inr (Or.inl ((hslSeqToRgb_kernel E _ _ _).value hc))
    -- `[r, g, b, a]`
    · refine Post.ite (fun _ => Post.toVorT ?_) fun _ => hslaSeqToRgb_kernel E _ _ _ _ bg
      -- looks like RGBA: the four numbers, the background, `rgba_to_rgb`; `ValueError` only
      exact Post.bind numberTokenOfVal_errors fun _ => Post.bind numberTokenOfVal_errors fun _ =>
        Post.bind numberTokenOfVal_errors fun _ => Post.bind numberTokenOfVal_errors fun _ =>
        Post.bind bgParsed_errors fun _ => rgbaToRgb_kernel
    · exact Post.vErr (Or.inl rfl)
  cases v with
  | tuple xs => exact hseq xs
  | list xs => exact parseColor_list E xs bg ▸ hseq xs
  | str s =>
    refine (parseStr_cases E s bg).toVorT.mono fun c h => ?_
    rcases h with h | ⟨-, h⟩ | ⟨-, h⟩ | ⟨-, h⟩
    · exact Or.inl h
    · exact (hslaStrToRgb_kernel E _ bg).value h
    · exact Or.inr (Or.inl ((hslStrToRgb_kernel E _).value h))
    · exact Or.inr (Or.inr (Or.inr h))
  | _ => exact Post.vErr (Or.inl rfl)

/-- `parse_color_to_rgb` raises `ValueError` or `TypeError` only (on `OverflowError`: `C14.parseColor_errors`) -/
theorem parseColor_errors (E : PEnv) (v : PyVal α) (bg : Option RGB) :
    ErrIn VorT (parseColor E v bg) := (parseColor_kernel E v bg).errors

open Cm.ParseSpec

theorem mix_mem {a x y lo hi : ℚ} (ha0 : 0 ≤ a) (ha1 : a ≤ 1) (hx : lo ≤ x ∧ x ≤ hi)
    (hy : lo ≤ y ∧ y ≤ hi) : lo ≤ a * x + (1 - a) * y ∧ a * x + (1 - a) * y ≤ hi := by
  have h1a : 0 ≤ 1 - a := sub_nonneg.2 ha1
  have e : ∀ z : ℚ, a * z + (1 - a) * z = z := fun z => by rw [← add_mul, add_sub_cancel, one_mul]
  constructor
  · calc lo = a * lo + (1 - a) * lo := (e lo).symm
      _ ≤ _ := add_le_add (mul_le_mul_of_nonneg_left hx.1 ha0) (mul_le_mul_of_nonneg_left hy.1 h1a)
  · calc a * x + (1 - a) * y ≤ a * hi + (1 - a) * hi :=
          add_le_add (mul_le_mul_of_nonneg_left hx.2 ha0) (mul_le_mul_of_nonneg_left hy.2 h1a)
      _ = hi := e hi

/-- source-over compositing of two 8-bit colours, channel by channel, followed by a rounding `rd`
    that keeps `[0, 255]`, gives an 8-bit colour -/
theorem mix_valid {rd : ℚ → ℤ} (hrd : ∀ {x : ℚ}, 0 ≤ x ∧ x ≤ 255 → 0 ≤ rd x ∧ rd x ≤ 255)
    {a : ℚ} (ha0 : 0 ≤ a) (ha1 : a ≤ 1) {c k : RGB} (hc : validRgb c = true)
    (hk : validRgb k = true) :
    validRgb (rd (a * c.1 + (1 - a) * k.1), rd (a * c.2.1 + (1 - a) * k.2.1),
      rd (a * c.2.2 + (1 - a) * k.2.2)) = true := by
  have q : ∀ {n : ℤ}, 0 ≤ n ∧ n ≤ 255 → (0 : ℚ) ≤ n ∧ (n : ℚ) ≤ 255 := fun h => by
    exact_mod_cast h
  rw [validRgb_iff] at hc hk ⊢
  exact ⟨hrd (mix_mem ha0 ha1 (q hc.1) (q hk.1)), hrd (mix_mem ha0 ha1 (q hc.2.1) (q hk.2.1)),
    hrd (mix_mem ha0 ha1 (q hc.2.2) (q hk.2.2))⟩

theorem hslFinish_valid_Q {x s l : ℚ} {c : RGB}
    (hc : @hslFinish ℚ ratNum (pmodQ x 360) s l = .ok c) : validRgb c = true := by
  obtain ⟨hr, rfl⟩ := (@hslFinish_guards ℚ ratNum _ s l).value hc
  rw [hslInRange_rat] at hr
  obtain ⟨R, G, B, hcore, hv, -⟩ := hslOfHue_spec x hr.1.1 hr.1.2 hr.2.1 hr.2.2
  rw [hcore]
  exact hv

theorem hslaFinish_valid_Q {h s l a : ℚ} {bg : Option RGB}
    (hbg : ∀ b, bg = some b → validRgb b = true) {c : RGB}
    (hc : @hslaFinish ℚ ratNum h s l a bg = .ok c) : validRgb c = true := by
  obtain ⟨hr, ha⟩ := (@hslaFinish_guards ℚ ratNum h s l a bg).value hc
  obtain ⟨⟨hs0, hs1⟩, hl0, hl1⟩ := (hslInRange_rat s l).1 hr
  obtain ⟨ha0, ha1⟩ := (rat_mem_unit a).1 ha
  rw [hslaFinish_rat bg hs0 hs1 hl0 hl1 ha0 ha1] at hc
  obtain ⟨R, G, B, hcore, hv, -⟩ := hslOfHue_spec h hs0 hs1 hl0 hl1
  have hk : validRgb (bg.getD (255, 255, 255)) = true := by
    cases bg with
    | none => decide
    | some b => exact hbg b rfl
  simp only [hcore] at hc
  split at hc
  · cases hc; exact hv
  · cases hc
    exact mix_valid (c := (R, G, B)) truncQ_mem_byte ha0 ha1 hv hk

theorem rgbaToRgb_valid_Q {r g b : ℤ} {a : ℚ} {k c : RGB}
    (hc : @rgbaToRgb ℚ ratNum r g b a k = .ok c) : validRgb c = true := by
  obtain ⟨hv, ha, hk⟩ := (@rgbaToRgb_guards ℚ ratNum r g b a k).value hc
  obtain ⟨ha0, ha1⟩ := (rat_mem_unit a).1 ha
  rw [rgbaToRgb_rat hv ha0 ha1 hk] at hc
  cases hc
  exact mix_valid (c := (r, g, b)) roundQ_mem_byte ha0 ha1 hv hk

/-- at the exact carrier every kernel output is a valid colour -/
theorem kernel_valid_Q (bg : Option RGB) (hbg : ∀ b, bg = some b → validRgb b = true) (c : RGB)
    (h : @Kernel ℚ ratNum bg c) : validRgb c = true := by
  rcases h with h | ⟨x, s, l, h⟩ | ⟨h', s, l, a, h⟩ | ⟨r, g, b, a, k, h⟩
  · exact h
  · rw [lit360] at h
    exact hslFinish_valid_Q h
  · exact hslaFinish_valid_Q hbg h
  · exact rgbaToRgb_valid_Q h

end Cm.ParseTotal
