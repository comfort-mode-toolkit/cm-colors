import CmProofs.Logic
import CmProofs.Order
import CmProofs.Schedules
import CmProofs.SearchWithin
import CmProofs.SearchSim
import CmProofs.Rgb
import CmProofs.ColorNew
import CmProofs.Strategy
import CmProofs.RealNum
import CmProofs.WcagReal
import CmProofs.ColorReal
import CmProofs.CertSound
import CmProofs.RatNum
import CmProofs.HslRoundtrip
import CmProofs.FormatRoundtrip
import CmProofs.ParseCore
import CmProofs.ParseStr
import CmProofs.ParseTable
import CmProofs.ParseLemmas
import CmProofs.ParseSpec
import CmProofs.ParseNumRe
import CmProofs.ParseFloatStr
import CmProofs.ParseTok
import CmProofs.ParseRgbStr
import CmProofs.ParseHslStr
import CmProofs.ParseHslaStr
import CmProofs.ParseTotal
import CmProofs.SearchComplete
import CmProofs.SearchCompleteField
import CmProofs.CliRule
import CmProofs.CliTree
import CmProofs.CliOutput
import CmProofs.CliFs
import CmProofs.SourceOpt
import CmProofs.SourceDescent
import CmProofs.SourceApi
import CmProofs.CliTopLemmas
import CmProofs.CliMainLemmas
import CmProofs.SourceHex
import CmProofs.DeltaEZero
import CmProofs.CliVarLemmas
import CmProofs.CliTrace
import CmProofs.CliDemo
